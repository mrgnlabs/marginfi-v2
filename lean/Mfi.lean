import Mfi.Props.C01
import Mfi.Props.C02
import Mfi.Props.C03
import Mfi.Props.C04
import Mfi.Props.C05
import Mfi.Props.C06
import Mfi.Props.C07
import Mfi.Props.C08
import Mfi.Props.C09
import Mfi.Props.C10
import Mfi.Props.C11
import Mfi.Props.C12
import Mfi.Props.C13
import Mfi.Props.C14
import Mfi.Props.C15
import Mfi.Props.C16
import Mfi.Props.C17
import Mfi.Props.C18
import Mfi.Props.C19
import Mfi.Props.C20
