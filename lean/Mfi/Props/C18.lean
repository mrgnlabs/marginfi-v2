/-
  C18 — Every accepted interest curve is usable, bounded and non-decreasing.

  Theorems about Mfi/Model/Interest.lean (diffed against the real InterestRateConfig::validate,
  InterestRateCalc::calc_interest_rate and calc_interest_rate_accrual_state_changes by the `curve`
  family). Quantification: every configuration (any number of points in the list, any u32 values)
  that `validate_seven_point` / `validate_legacy` accepts, every utilisation bit pattern.
-/
import Mfi.Lemmas.InterestL
import Mfi.Lemmas.ResL

namespace Mfi.Props.C18
open Mfi Mfi.Fx Mfi.Interest

theorem TEN_eq : TEN = 2814749767106560 := rfl

theorem subP_ok {a b : Int} (h0 : MIN ≤ a - b) (h1 : a - b ≤ MAX) : subP a b = .ok (a - b) :=
  if_pos ((inRange_iff _).2 ⟨h0, h1⟩)
theorem addP_ok {a b : Int} (h0 : MIN ≤ a + b) (h1 : a + b ≤ MAX) : addP a b = .ok (a + b) :=
  if_pos ((inRange_iff _).2 ⟨h0, h1⟩)

/-- the value `lerp` computes on a non-degenerate segment -/
def lerpVal (sx sy ex ey t : Int) : Int := sy + (ey - sy) * ((t - sx) * ONE / (ex - sx)) / ONE

theorem lerp_eq {sx sy ex ey t : Int} (hsx : 0 ≤ sx) (hst : sx ≤ t) (hte : t ≤ ex) (hlt : sx < ex) (hex : ex ≤ MAX)
    (hsy : 0 ≤ sy) (hy : sy ≤ ey) (hey : ey ≤ MAX) :
    lerp sx sy ex ey t = .ok (lerpVal sx sy ex ey t) := by
  have hdx : 0 < ex - sx := Int.sub_pos.2 hlt
  have hdy : 0 ≤ ey - sy := Int.sub_nonneg.2 hy
  have hp := prop_bounds (Int.sub_nonneg.2 hst) (Int.sub_le_sub_right hte sx) hdx
  have hs := frac_mul_bounds hdy hp.1 hp.2
  have e4 : wrap (Int.tdiv ((t - sx) * ONE) (ex - sx)) = (t - sx) * ONE / (ex - sx) := by
    rw [Int.tdiv_eq_ediv_of_nonneg (Int.mul_nonneg (Int.sub_nonneg.2 hst) (Int.le_of_lt ONE_pos))]
    exact wrap_id (Int.le_trans MIN_le_zero hp.1) (Int.le_trans hp.2 (by decide))
  have e5 := mul?_frac hdy (by omega) hp.1 hp.2
  have e6 := addP_ok (a := sy) (b := (ey - sy) * ((t - sx) * ONE / (ex - sx)) / ONE)
    (Int.le_trans MIN_le_zero (Int.add_nonneg hsy hs.1)) (by omega)
  unfold lerp
  rw [if_neg (Int.not_le.2 hlt), if_neg (Int.not_lt.2 hst), if_neg (Int.not_lt.2 hte), if_neg (Int.not_lt.2 hy)]
  simp only [subP_nonneg hsx (Int.le_of_lt hlt) hex, subP_nonneg hsx hst (Int.le_trans hte hex), subP_nonneg hsy hy hey,
    e4, e5, e6, if_neg (Int.ne_of_gt hdx), Res.ofOpt, lerpVal, bind, Except.bind]

theorem lerp_ok {sx sy ex ey t : Int} (hsx : 0 ≤ sx) (hst : sx ≤ t) (hte : t ≤ ex) (hex : ex ≤ ONE)
    (hsy : 0 ≤ sy) (hy : sy ≤ ey) (hey : ey ≤ TEN) :
    lerp sx sy ex ey t = .ok (if ex ≤ sx then sy else lerpVal sx sy ex ey t) := by
  by_cases h1 : ex ≤ sx
  · rw [if_pos h1]; exact lerp_degenerate h1
  · rw [if_neg h1]
    exact lerp_eq hsx hst hte (by omega) (Int.le_trans hex (by decide)) hsy hy (Int.le_trans hey (by decide))

theorem lerpVal_bounds {sx sy ex ey t : Int} (hst : sx ≤ t) (hte : t ≤ ex) (hlt : sx < ex) (hy : sy ≤ ey) :
    sy ≤ lerpVal sx sy ex ey t ∧ lerpVal sx sy ex ey t ≤ ey := by
  have hp := prop_bounds (off := t - sx) (dx := ex - sx) (by omega) (by omega) (by omega)
  have hs := frac_mul_bounds (d := ey - sy) (p := (t - sx) * ONE / (ex - sx)) (by omega) hp.1 hp.2
  unfold lerpVal
  omega

theorem lerpVal_end {sx sy ex ey : Int} (hlt : sx < ex) : lerpVal sx sy ex ey ex = ey := by
  unfold lerpVal
  rw [Int.mul_ediv_cancel_left ONE (show ex - sx ≠ 0 by omega), Int.mul_ediv_cancel _ (by decide)]
  omega

theorem lerpVal_start {sx sy ex ey : Int} : lerpVal sx sy ex ey sx = sy := by
  unfold lerpVal
  simp

theorem lerpVal_mono {sx sy ex ey t t' : Int} (hst : sx ≤ t) (htt : t ≤ t') (hlt : sx < ex) (hy : sy ≤ ey) :
    lerpVal sx sy ex ey t ≤ lerpVal sx sy ex ey t' := by
  have h1 : (t - sx) * ONE / (ex - sx) ≤ (t' - sx) * ONE / (ex - sx) :=
    Int.ediv_le_ediv (Int.sub_pos.2 hlt) (Int.mul_le_mul_of_nonneg_right (Int.sub_le_sub_right htt sx) (Int.le_of_lt ONE_pos))
  exact Int.add_le_add_left (Int.ediv_le_ediv ONE_pos (Int.mul_le_mul_of_nonneg_left h1 (Int.sub_nonneg.2 hy))) sy

theorem U32MAX_eq : U32MAX = 4294967295 := rfl

theorem utilFromU32_eq {u : Int} (hu : 0 ≤ u) : utilFromU32 u = u * ONE / U32MAX := by
  unfold utilFromU32
  rw [Int.tdiv_eq_ediv_of_nonneg (by have := ONE_pos; positivity)]
  exact Int.mul_ediv_mul_of_pos_left _ _ ONE_pos

theorem rateFromU32_eq {r : Int} (hr : 0 ≤ r) : rateFromU32 r = 10 * (r * ONE / U32MAX) := by
  unfold rateFromU32 TEN
  rw [Int.tdiv_eq_ediv_of_nonneg (by have := ONE_pos; positivity), Int.mul_ediv_mul_of_pos_left _ _ ONE_pos]
  rw [← mul_assoc, Int.mul_ediv_cancel _ (by decide)]
  exact mul_comm _ _

theorem util_strict_mono {u v : Int} (hu : 0 ≤ u) (h : u < v) : utilFromU32 u < utilFromU32 v := by
  rw [utilFromU32_eq hu, utilFromU32_eq (by omega)]
  simp only [ONE_eq, U32MAX_eq]
  omega

theorem util_bounds {u : Int} (hu : 0 ≤ u) (h : u ≤ U32MAX) : 0 ≤ utilFromU32 u ∧ utilFromU32 u ≤ ONE := by
  rw [utilFromU32_eq hu]
  simp only [ONE_eq, U32MAX_eq] at *
  omega

theorem util_max : utilFromU32 U32MAX = ONE := by decide

theorem util_zero : utilFromU32 0 = 0 := by decide

theorem rate_mono {r s : Int} (hr : 0 ≤ r) (h : r ≤ s) : rateFromU32 r ≤ rateFromU32 s := by
  rw [rateFromU32_eq hr, rateFromU32_eq (by omega)]
  simp only [ONE_eq, U32MAX_eq]
  omega

theorem rate_bounds {r : Int} (hr : 0 ≤ r) (h : r ≤ U32MAX) : 0 ≤ rateFromU32 r ∧ rateFromU32 r ≤ TEN := by
  rw [rateFromU32_eq hr]
  simp only [ONE_eq, U32MAX_eq, TEN_eq] at *
  omega

/-- a non-degenerate segment of representable non-negative values: what `lerp_eq` and the `lerpVal_*` lemmas ask for -/
structure Seg (sx sy ex ey : Int) : Prop where
  sx0 : 0 ≤ sx
  lt : sx < ex
  ex1 : ex ≤ MAX
  sy0 : 0 ≤ sy
  le : sy ≤ ey
  ey1 : ey ≤ MAX

theorem Seg.lerp {sx sy ex ey t : Int} (s : Seg sx sy ex ey) (h1 : sx ≤ t) (h2 : t ≤ ex) :
    lerp sx sy ex ey t = .ok (lerpVal sx sy ex ey t) := lerp_eq s.sx0 h1 h2 s.lt s.ex1 s.sy0 s.le s.ey1

theorem Seg.bounds {sx sy ex ey t : Int} (s : Seg sx sy ex ey) (h1 : sx ≤ t) (h2 : t ≤ ex) :
    sy ≤ lerpVal sx sy ex ey t ∧ lerpVal sx sy ex ey t ≤ ey := lerpVal_bounds h1 h2 s.lt s.le

theorem Seg.mono {sx sy ex ey t t' : Int} (s : Seg sx sy ex ey) (h1 : sx ≤ t) (h2 : t ≤ t') :
    lerpVal sx sy ex ey t ≤ lerpVal sx sy ex ey t' := lerpVal_mono h1 h2 s.lt s.le

theorem Seg.grid {pu pr qu qr : Int} (hpu : 0 ≤ pu) (hlt : pu < qu) (hqu : qu ≤ U32MAX) (hpr : 0 ≤ pr) (hrr : pr ≤ qr)
    (hqr : qr ≤ U32MAX) : Seg (utilFromU32 pu) (rateFromU32 pr) (utilFromU32 qu) (rateFromU32 qr) :=
  ⟨(util_bounds hpu (by omega)).1, util_strict_mono hpu hlt,
    Int.le_trans (util_bounds (by omega) hqu).2 (by decide), (rate_bounds hpr (by omega)).1, rate_mono hpr hrr,
    Int.le_trans (rate_bounds (by omega) hqr).2 (by decide)⟩

theorem Seg.last {pu pr hundred : Int} (hpu : 0 ≤ pu) (hlt : pu < U32MAX) (hpr : 0 ≤ pr) (hrr : pr ≤ hundred)
    (hh : hundred ≤ U32MAX) : Seg (utilFromU32 pu) (rateFromU32 pr) ONE (rateFromU32 hundred) :=
  util_max ▸ Seg.grid hpu hlt (Int.le_refl _) hpr hrr hh

/-- Shape of the remaining point list relative to the previous used point (pu, pr), all as u32
    integers: points with util = 0 are skipped; used points have strictly increasing util
    (≤ u32::MAX) and non-decreasing rate, all ≤ hundred. This is what `validate_seven_point`
    establishes (theorem `validate_chain`). -/
def Chain (hundred : Int) : Int → Int → List Point → Prop
  | _, pr, [] => pr ≤ hundred
  | pu, pr, p :: rest =>
    (p.util = 0 ∧ Chain hundred pu pr rest) ∨
    (p.util ≠ 0 ∧ pu < p.util ∧ p.util < U32MAX ∧ pr ≤ p.rate ∧ Chain hundred p.util p.rate rest)

theorem chain_le (hundred : Int) : ∀ (l : List Point) (a b : Int), Chain hundred a b l → b ≤ hundred := by
  intro l
  induction l with
  | nil => intro a b h; exact h
  | cons q l ihl =>
    intro a b h
    simp only [Chain] at h
    rcases h with ⟨_, h⟩ | ⟨_, _, _, h1, h2⟩
    · exact ihl a b h
    · exact le_trans h1 (ihl _ _ h2)

def usedOf (pts : List Point) : List Point := pts.filter (fun p => p.util ≠ 0)

theorem usedOf_cons_zero {p : Point} {rest : List Point} (h : p.util = 0) : usedOf (p :: rest) = usedOf rest := by
  simp [usedOf, h]

theorem usedOf_cons_ne {p : Point} {rest : List Point} (h : p.util ≠ 0) : usedOf (p :: rest) = p :: usedOf rest := by
  simp [usedOf, h]

theorem collectUsed_eq : ∀ (pts : List Point) (seen : Bool) (acc used : List Point),
    collectUsed pts seen acc = some used →
    used = acc.reverse ++ usedOf pts ∧ ∀ p ∈ usedOf pts, p.util ≠ U32MAX := by
  intro pts
  induction pts with
  | nil => intro seen acc used h; simp [collectUsed] at h; simp [usedOf, h]
  | cons p rest ih =>
    intro seen acc used h
    simp only [collectUsed] at h
    by_cases hz : p.util = 0
    · rw [if_pos hz] at h
      by_cases hr : p.rate ≠ 0
      · rw [if_pos hr] at h; cases h
      · rw [if_neg hr] at h; rw [usedOf_cons_zero hz]; exact ih _ _ _ h
    · rw [if_neg hz] at h
      cases seen with
      | true => cases h
      | false =>
        by_cases hm : p.util = U32MAX
        · rw [if_neg Bool.false_ne_true, if_pos hm] at h; cases h
        · rw [if_neg Bool.false_ne_true, if_neg hm] at h
          obtain ⟨e, hall⟩ := ih _ _ _ h
          rw [usedOf_cons_ne hz]
          refine ⟨by rw [e, List.reverse_cons, List.append_assoc]; rfl, ?_⟩
          intro q hq
          rcases List.mem_cons.1 hq with rfl | hq
          · exact hm
          · exact hall q hq

def ascFrom : Int → Int → List Point → Prop
  | _, _, [] => True
  | pu, pr, p :: rest => pu < p.util ∧ pr ≤ p.rate ∧ ascFrom p.util p.rate rest

theorem ascending_ascFrom : ∀ (rest : List Point) (p : Point), ascending (p :: rest) = true →
    ascFrom p.util p.rate rest := by
  intro rest
  induction rest with
  | nil => intro p _; trivial
  | cons q rest ih =>
    intro p h
    simp only [ascending, Bool.and_eq_true, decide_eq_true_eq] at h
    exact ⟨h.1.1, h.1.2, ih q h.2⟩

theorem chain_of_ascFrom (hundred : Int) : ∀ (pts : List Point) (pu pr : Int),
    ascFrom pu pr (usedOf pts) → pr ≤ hundred →
    (∀ p ∈ usedOf pts, p.util < U32MAX ∧ p.rate ≤ hundred) → Chain hundred pu pr pts := by
  intro pts
  induction pts with
  | nil => intro pu pr _ h _; exact h
  | cons p rest ih =>
    intro pu pr ha hp hall
    simp only [Chain]
    by_cases hz : p.util = 0
    · rw [usedOf_cons_zero hz] at ha hall
      exact Or.inl ⟨hz, ih pu pr ha hp hall⟩
    · rw [usedOf_cons_ne hz] at ha hall
      have hp' := hall p (List.mem_cons_self ..)
      exact Or.inr ⟨hz, ha.1, hp'.1, ha.2.1, ih _ _ ha.2.2 hp'.2 (fun q hq => hall q (List.mem_cons_of_mem _ hq))⟩

/-- the u32 fields really are u32 (a fact about the Rust types, hypothesis of the theorems) -/
structure WF (c : IrCalc) : Prop where
  zero_nonneg : 0 ≤ c.zeroRate
  hundred_le : c.hundredRate ≤ U32MAX
  pts : ∀ p ∈ c.points, 0 ≤ p.util ∧ p.util ≤ U32MAX ∧ 0 ≤ p.rate

theorem validate_chain (c : IrCalc) (hw : WF c) (hv : validateSevenPoint c = true) :
    Chain c.hundredRate 0 c.zeroRate c.points ∧ c.zeroRate ≤ c.hundredRate := by
  unfold validateSevenPoint at hv
  revert hv
  cases hcu : collectUsed c.points false [] with
  | none => intro hv; cases hv
  | some used =>
    intro hv
    obtain ⟨hused, hnomax⟩ := collectUsed_eq _ _ _ _ hcu
    simp only [List.reverse_nil, List.nil_append] at hused
    subst hused
    simp only [Bool.and_eq_true, decide_eq_true_eq, List.all_eq_true] at hv
    obtain ⟨⟨hasc, hzh⟩, hall⟩ := hv
    -- a used point is a u32 other than 0 and u32::MAX
    have hgrid : ∀ p ∈ usedOf c.points, 0 < p.util ∧ p.util < U32MAX := fun p hp => by
      obtain ⟨hmem, hnz⟩ := List.mem_filter.1 hp
      have := hw.pts p hmem
      have := hnomax p hp
      have : p.util ≠ 0 := by simpa using hnz
      omega
    refine ⟨chain_of_ascFrom _ _ _ _ ?_ hzh fun p hp => ⟨(hgrid p hp).2, (hall p hp).2⟩, hzh⟩
    cases hu : usedOf c.points with
    | nil => trivial
    | cons p rest =>
      rw [hu] at hasc
      have hin : p ∈ usedOf c.points := hu ▸ List.mem_cons_self ..
      exact ⟨(hgrid p hin).1, (hall p hin).1, ascending_ascFrom rest p hasc⟩

theorem clampUr_bounds (ur : Int) : 0 ≤ clampUr ur ∧ clampUr ur ≤ ONE := Interest.clampUr_bounds ur

theorem chain_lt (hundred : Int) : ∀ (pts : List Point) (pu pr : Int), Chain hundred pu pr pts →
    ∀ q ∈ usedOf pts, pu < q.util ∧ q.util ≤ U32MAX := by
  intro pts
  induction pts with
  | nil => intro pu pr _ q hq; cases hq
  | cons p rest ih =>
    intro pu pr hc q hq
    simp only [Chain] at hc
    rcases hc with ⟨hz, hc⟩ | ⟨hnz, hlt, hpm, _, hc⟩
    · rw [usedOf_cons_zero hz] at hq
      exact ih pu pr hc q hq
    · rw [usedOf_cons_ne hnz] at hq
      rcases List.mem_cons.1 hq with rfl | hq
      · exact ⟨hlt, Int.le_of_lt hpm⟩
      · have := ih _ _ hc q hq
        exact ⟨by omega, this.2⟩

/-- on a chain, seen from the knot (pu, pr), the loop is a non-decreasing function below the 100 % rate that passes through
    that knot, every used point still ahead and the one at 100 % -/
theorem loop_spec (hundred : Int) (hh : hundred ≤ U32MAX) :
    ∀ (pts : List Point) (pu pr : Int), Chain hundred pu pr pts → 0 ≤ pu → pu ≤ U32MAX → 0 ≤ pr →
      ∃ f : Int → Int,
        (∀ ur, utilFromU32 pu ≤ ur → ur ≤ ONE →
          curveLoop pts (utilFromU32 pu) (rateFromU32 pr) (rateFromU32 hundred) ur = .ok (f ur) ∧ f ur ≤ rateFromU32 hundred) ∧
        f (utilFromU32 pu) = rateFromU32 pr ∧
        (∀ u1 u2, utilFromU32 pu ≤ u1 → u1 ≤ u2 → u2 ≤ ONE → f u1 ≤ f u2) ∧
        ∀ q : Point, (q = ⟨pu, pr⟩ ∨ q ∈ usedOf pts ∨ (q = ⟨U32MAX, hundred⟩ ∧ pu < U32MAX)) →
          curveLoop pts (utilFromU32 pu) (rateFromU32 pr) (rateFromU32 hundred) (utilFromU32 q.util)
            = .ok (rateFromU32 q.rate) := by
  intro pts
  induction pts with
  | nil =>
    intro pu pr hc hpu0 hpu1 hpr
    simp only [curveLoop]
    rcases Int.le_iff_lt_or_eq.1 hpu1 with hlt | rfl
    · have sg := Seg.last hpu0 hlt hpr hc hh
      refine ⟨lerpVal _ _ _ _, fun ur h0 h1 => ⟨sg.lerp h0 h1, (sg.bounds h0 h1).2⟩, lerpVal_start,
        fun u1 u2 h0 h12 _ => sg.mono h0 h12, ?_⟩
      rintro q (rfl | hq | ⟨rfl, -⟩)
      · rw [sg.lerp (Int.le_refl _) (Int.le_of_lt sg.lt), lerpVal_start]
      · cases hq
      · rw [util_max, sg.lerp (Int.le_of_lt sg.lt) (Int.le_refl _), lerpVal_end sg.lt]
    · -- a knot at 100 %: the last segment is degenerate, the loop constant
      have hd : ∀ ur, lerp (utilFromU32 U32MAX) (rateFromU32 pr) ONE (rateFromU32 hundred) ur = .ok (rateFromU32 pr) :=
        fun ur => lerp_degenerate (by rw [util_max])
      refine ⟨fun _ => rateFromU32 pr, fun ur _ _ => ⟨hd ur, rate_mono hpr hc⟩, rfl, fun _ _ _ _ _ => Int.le_refl _, ?_⟩
      rintro q (rfl | hq | ⟨-, hlt⟩)
      · exact hd _
      · cases hq
      · exact absurd hlt (Int.lt_irrefl _)
  | cons p rest ih =>
    intro pu pr hc hpu0 hpu1 hpr
    simp only [Chain] at hc
    simp only [curveLoop]
    rcases hc with ⟨hz, hc⟩ | ⟨hnz, hlt, hpm, hrr, hc⟩
    · simp only [if_pos hz, usedOf_cons_zero hz]
      exact ih pu pr hc hpu0 hpu1 hpr
    · simp only [if_neg hnz, usedOf_cons_ne hnz]
      have hph := chain_le hundred rest p.util p.rate hc
      have sg := Seg.grid hpu0 hlt (Int.le_of_lt hpm) hpr hrr (Int.le_trans hph hh)
      obtain ⟨g, g1, gp, g2, g3⟩ := ih p.util p.rate hc (by omega) (Int.le_of_lt hpm) (by omega)
      -- the segment up to `p`, then the rest of the loop, which starts at `p`'s rate
      refine ⟨fun ur => if ur ≤ utilFromU32 p.util then
          lerpVal (utilFromU32 pu) (rateFromU32 pr) (utilFromU32 p.util) (rateFromU32 p.rate) ur else g ur, ?_, ?_, ?_, ?_⟩
      · intro ur h0 h1
        by_cases hle : ur ≤ utilFromU32 p.util
        · simp only [if_pos hle]
          exact ⟨sg.lerp h0 hle, Int.le_trans (sg.bounds h0 hle).2 (rate_mono (Int.le_trans hpr hrr) hph)⟩
        · simp only [if_neg hle]
          exact g1 ur (by omega) h1
      · simp only [if_pos (Int.le_of_lt sg.lt)]
        exact lerpVal_start
      · intro u1 u2 h0 h12 h2
        by_cases hle2 : u2 ≤ utilFromU32 p.util
        · simp only [if_pos hle2, if_pos (Int.le_trans h12 hle2)]
          exact sg.mono h0 h12
        · simp only [if_neg hle2]
          by_cases hle1 : u1 ≤ utilFromU32 p.util
          · -- u1 on this segment, u2 beyond it: the segment stays below `p`'s rate, the rest of the loop above it
            simp only [if_pos hle1]
            exact Int.le_trans (sg.bounds h0 hle1).2 (gp ▸ g2 _ u2 (Int.le_refl _) (by omega) h2)
          · simp only [if_neg hle1]
            exact g2 u1 u2 (by omega) h12 h2
      · rintro q (rfl | hq | ⟨rfl, -⟩)
        · rw [if_pos (Int.le_of_lt sg.lt), sg.lerp (Int.le_refl _) (Int.le_of_lt sg.lt), lerpVal_start]
        · rcases List.mem_cons.1 hq with rfl | hq
          · rw [if_pos (Int.le_refl _), sg.lerp (Int.le_of_lt sg.lt) (Int.le_refl _), lerpVal_end sg.lt]
          · -- a knot strictly beyond `p` is left to the rest of the list
            rw [if_neg (Int.not_le.2 (util_strict_mono (by omega) (chain_lt hundred _ _ _ hc q hq).1))]
            exact g3 q (.inr (.inl hq))
        · rw [if_neg (Int.not_le.2 (util_strict_mono (by omega) hpm))]
          exact g3 _ (.inr (.inr ⟨rfl, hpm⟩))

theorem loop_defined_bounded (hundred : Int) (hh : hundred ≤ U32MAX) :
    ∀ (pts : List Point) (pu pr ur : Int), Chain hundred pu pr pts → 0 ≤ pu → pu ≤ U32MAX → 0 ≤ pr →
      utilFromU32 pu ≤ ur → ur ≤ ONE →
      ∃ r, curveLoop pts (utilFromU32 pu) (rateFromU32 pr) (rateFromU32 hundred) ur = .ok r ∧
           rateFromU32 pr ≤ r ∧ r ≤ rateFromU32 hundred := by
  intro pts pu pr ur hc hpu0 hpu1 hpr hur0 hur1
  obtain ⟨f, f1, fs, f2, _⟩ := loop_spec hundred hh pts pu pr hc hpu0 hpu1 hpr
  exact ⟨f ur, (f1 ur hur0 hur1).1, fs ▸ f2 _ ur (Int.le_refl _) hur0 hur1, (f1 ur hur0 hur1).2⟩

/-- For every accepted seven-point configuration and EVERY
    utilisation (any I80F48 bit pattern, clamped by the code), the base rate is defined and lies
    between the configured zero-utilisation and full-utilisation rates. -/
theorem curve_defined_bounded (c : IrCalc) (hw : WF c) (hv : validateSevenPoint c = true) (ur : Int) :
    ∃ r, multipointCurve c ur = .ok r ∧ rateFromU32 c.zeroRate ≤ r ∧ r ≤ rateFromU32 c.hundredRate := by
  have hb := clampUr_bounds ur
  simpa only [multipointCurve, util_zero] using loop_defined_bounded c.hundredRate hw.hundred_le c.points 0 c.zeroRate (clampUr ur)
    (validate_chain c hw hv).1 (le_refl _) (by decide) hw.zero_nonneg (util_zero ▸ hb.1) hb.2

/-- Utilisation below 0 / above 100 % gives the value at 0 / at 100 %. -/
theorem curve_clamped (c : IrCalc) (ur : Int) :
    multipointCurve c ur = multipointCurve c (clampUr ur) := by
  unfold multipointCurve
  rw [clampUr_idem]

theorem loop_hits_point (hundred : Int) (hh : hundred ≤ U32MAX) :
    ∀ (pts : List Point) (pu pr : Int), Chain hundred pu pr pts → 0 ≤ pu → pu ≤ U32MAX → 0 ≤ pr →
      ∀ q ∈ usedOf pts,
      curveLoop pts (utilFromU32 pu) (rateFromU32 pr) (rateFromU32 hundred) (utilFromU32 q.util)
        = .ok (rateFromU32 q.rate) := by
  intro pts pu pr hc hpu0 hpu1 hpr q hq
  obtain ⟨_, _, _, _, f3⟩ := loop_spec hundred hh pts pu pr hc hpu0 hpu1 hpr
  exact f3 q (.inr (.inl hq))

/-- At the utilisation of each configured point the base rate is exactly
    that point's rate. -/
theorem curve_hits_points (c : IrCalc) (hw : WF c) (hv : validateSevenPoint c = true)
    (q : Point) (hq : q ∈ c.points) (hnz : q.util ≠ 0) :
    multipointCurve c (utilFromU32 q.util) = .ok (rateFromU32 q.rate) := by
  have hqw := hw.pts q hq
  have hb := util_bounds hqw.1 hqw.2.1
  unfold multipointCurve
  rw [clampUr_id hb.1 hb.2]
  simpa only [util_zero] using loop_hits_point c.hundredRate hw.hundred_le c.points 0 c.zeroRate (validate_chain c hw hv).1
    (le_refl _) (by decide) hw.zero_nonneg q (List.mem_filter.2 ⟨hq, by simpa using hnz⟩)

theorem loop_at_start (hundred : Int) (hh : hundred ≤ U32MAX) :
    ∀ (pts : List Point) (pu pr : Int), Chain hundred pu pr pts → 0 ≤ pu → pu ≤ U32MAX → 0 ≤ pr →
      curveLoop pts (utilFromU32 pu) (rateFromU32 pr) (rateFromU32 hundred) (utilFromU32 pu)
        = .ok (rateFromU32 pr) := by
  intro pts pu pr hc hpu0 hpu1 hpr
  obtain ⟨_, _, _, _, f3⟩ := loop_spec hundred hh pts pu pr hc hpu0 hpu1 hpr
  exact f3 ⟨pu, pr⟩ (.inl rfl)

/-- At (and below) 0 % utilisation the base rate is the zero-utilisation rate. -/
theorem curve_hits_zero (c : IrCalc) (hw : WF c) (hv : validateSevenPoint c = true) (ur : Int) (hur : ur ≤ 0) :
    multipointCurve c ur = .ok (rateFromU32 c.zeroRate) := by
  have hcl : clampUr ur = 0 := by unfold clampUr; rw [Int.max_eq_right hur, Int.min_eq_left (Int.le_of_lt ONE_pos)]
  unfold multipointCurve
  rw [hcl]
  simpa only [util_zero] using loop_at_start c.hundredRate hw.hundred_le c.points 0 c.zeroRate (validate_chain c hw hv).1
    (le_refl _) (by decide) hw.zero_nonneg

theorem loop_at_one (hundred : Int) (hh : hundred ≤ U32MAX) :
    ∀ (pts : List Point) (pu pr : Int), Chain hundred pu pr pts → 0 ≤ pu → pu < U32MAX → 0 ≤ pr →
      curveLoop pts (utilFromU32 pu) (rateFromU32 pr) (rateFromU32 hundred) ONE
        = .ok (rateFromU32 hundred) := by
  intro pts pu pr hc hpu0 hpu1 hpr
  obtain ⟨_, _, _, _, f3⟩ := loop_spec hundred hh pts pu pr hc hpu0 (Int.le_of_lt hpu1) hpr
  exact util_max ▸ f3 ⟨U32MAX, hundred⟩ (.inr (.inr ⟨rfl, hpu1⟩))

/-- At (and above) 100 % utilisation the base rate is exactly the configured
    full-utilisation rate. (Full statement since the repair `fix: reject interest curve points at
    100% utilization`; before it a point at util = u32::MAX shadowed the 100 % rate.) -/
theorem curve_hits_hundred (c : IrCalc) (hw : WF c) (hv : validateSevenPoint c = true)
    (ur : Int) (hur : ONE ≤ ur) :
    multipointCurve c ur = .ok (rateFromU32 c.hundredRate) := by
  have hcl : clampUr ur = ONE := by
    unfold clampUr; rw [Int.max_eq_left (Int.le_trans (Int.le_of_lt ONE_pos) hur), Int.min_eq_right hur]
  unfold multipointCurve
  rw [hcl]
  simpa only [util_zero] using loop_at_one c.hundredRate hw.hundred_le c.points 0 c.zeroRate (validate_chain c hw hv).1
    (le_refl _) (by decide) hw.zero_nonneg

/-- regression witness of the repaired defect: the configuration with a point at util = u32::MAX
    (which used to validate and to return 1000 instead of the 100 % rate) is now rejected. -/
def shadowCfg : IrCalc :=
  { optimal := 0, plateau := 0, maxIr := 0, insFixed := 0, insRate := 0, grpFixed := 0, grpRate := 0,
    progFixed := 0, progRate := 0, addProgramFees := false, zeroRate := 0, hundredRate := 4294967295,
    points := [⟨4294967295, 1000⟩, ⟨0, 0⟩, ⟨0, 0⟩, ⟨0, 0⟩, ⟨0, 0⟩], curveType := 1 }

theorem point_at_max_rejected : validateSevenPoint shadowCfg = false := by decide

theorem loop_monotone (hundred : Int) (hh : hundred ≤ U32MAX) :
    ∀ (pts : List Point) (pu pr u1 u2 r1 r2 : Int), Chain hundred pu pr pts → 0 ≤ pu → pu ≤ U32MAX → 0 ≤ pr →
      utilFromU32 pu ≤ u1 → u1 ≤ u2 → u2 ≤ ONE →
      curveLoop pts (utilFromU32 pu) (rateFromU32 pr) (rateFromU32 hundred) u1 = .ok r1 →
      curveLoop pts (utilFromU32 pu) (rateFromU32 pr) (rateFromU32 hundred) u2 = .ok r2 → r1 ≤ r2 := by
  intro pts pu pr u1 u2 r1 r2 hc hpu0 hpu1 hpr h1 h12 h2 e1 e2
  obtain ⟨f, f1, _, f2, _⟩ := loop_spec hundred hh pts pu pr hc hpu0 hpu1 hpr
  rw [(f1 u1 h1 (Int.le_trans h12 h2)).1] at e1
  rw [(f1 u2 (Int.le_trans h1 h12) h2).1] at e2
  rw [← Res.pure_ok e1, ← Res.pure_ok e2]
  exact f2 u1 u2 h1 h12 h2

theorem clampUr_mono {a b : Int} (h : a ≤ b) : clampUr a ≤ clampUr b :=
  Int.le_min.2 ⟨Int.le_trans (Int.min_le_left _ _) (Int.max_le.2 ⟨Int.le_trans h (Int.le_max_left _ _), Int.le_max_right _ _⟩),
    Int.min_le_right _ _⟩

/-- The base rate never decreases as utilisation rises. -/
theorem curve_monotone (c : IrCalc) (hw : WF c) (hv : validateSevenPoint c = true) (u1 u2 r1 r2 : Int)
    (h : u1 ≤ u2) (e1 : multipointCurve c u1 = .ok r1) (e2 : multipointCurve c u2 = .ok r2) : r1 ≤ r2 := by
  unfold multipointCurve at e1 e2
  rw [← util_zero] at e1 e2
  exact loop_monotone c.hundredRate hw.hundred_le c.points 0 c.zeroRate _ _ r1 r2 (validate_chain c hw hv).1 (le_refl _)
    (by decide) hw.zero_nonneg (util_zero ▸ (clampUr_bounds u1).1) (clampUr_mono h) (clampUr_bounds u2).2 e1 e2

/-- the legacy curve is two segments of the same interpolation: (0, 0) – (optimal, plateau) – (100 %, max) -/
theorem legacy_eq (c : IrCalc) (hv : validateLegacy c = true) (hmax : c.maxIr ≤ MAX) (ur : Int) (h0 : 0 ≤ ur) (h1 : ur ≤ ONE) :
    legacyCurve c ur = .ok (if ur ≤ c.optimal then lerpVal 0 0 c.optimal c.plateau ur
                            else lerpVal c.optimal c.plateau ONE c.maxIr ur) := by
  obtain ⟨ho0, ho1, hp0, _, hpm⟩ := validateLegacy_ok hv
  simp only [legacyCurve, clampUr_id h0 h1]
  by_cases hle : ur ≤ c.optimal
  · have hq := prop_bounds h0 hle ho0
    rw [if_pos hle, if_pos hle, div?_prop h0 hle ho0]
    simp only [Res.ofOpt, bind, Except.bind]
    rw [mul?_comm, mul?_frac (Int.le_of_lt hp0) (by omega) hq.1 hq.2]
    simp only [lerpVal, Int.sub_zero, Int.zero_add]
  · have hu : c.optimal ≤ ur := by omega
    have hden : 0 < ONE - c.optimal := by omega
    have hq := prop_bounds (Int.sub_nonneg.2 hu) (Int.sub_le_sub_right h1 _) hden
    have hs := frac_mul_bounds (d := c.maxIr - c.plateau) (by omega) hq.1 hq.2
    rw [if_neg hle, if_neg hle, subP_nonneg (Int.le_of_lt ho0) hu (Int.le_trans h1 (by decide)),
      subP_nonneg (Int.le_of_lt ho0) (Int.le_of_lt ho1) (by decide), subP_nonneg (Int.le_of_lt hp0) (Int.le_of_lt hpm) hmax]
    simp only [bind, Except.bind, div?_prop (Int.sub_nonneg.2 hu) (Int.sub_le_sub_right h1 _) hden, Res.ofOpt]
    rw [mul?_comm, mul?_frac (by omega) (by omega) hq.1 hq.2]
    simp only []
    rw [add?_eq (Int.le_trans MIN_le_zero (by omega)) (by omega), Int.add_comm]
    rfl

/-- For every accepted legacy configuration and every utilisation in
    [0, 100 %] the base rate is defined and lies in [0, max_interest_rate]; it equals the plateau
    rate at the optimal utilisation and the max rate at 100 %. -/
theorem legacy_defined_bounded (c : IrCalc) (hv : validateLegacy c = true) (hmax : c.maxIr ≤ MAX)
    (ur : Int) (h0 : 0 ≤ ur) (h1 : ur ≤ ONE) :
    ∃ r, legacyCurve c ur = .ok r ∧ 0 ≤ r ∧ r ≤ c.maxIr ∧
         (ur = c.optimal → r = c.plateau) ∧ (ur = ONE → r = c.maxIr) := by
  obtain ⟨ho0, ho1, hp0, _, hpm⟩ := validateLegacy_ok hv
  refine ⟨_, legacy_eq c hv hmax ur h0 h1, ?_⟩
  by_cases hle : ur ≤ c.optimal
  · rw [if_pos hle]
    have hb := lerpVal_bounds (sy := 0) (ey := c.plateau) h0 hle ho0 (Int.le_of_lt hp0)
    refine ⟨hb.1, by omega, ?_, by omega⟩
    intro he; rw [he]; exact lerpVal_end ho0
  · rw [if_neg hle]
    have hb := lerpVal_bounds (sy := c.plateau) (ey := c.maxIr) (by omega : c.optimal ≤ ur) h1 ho1 (Int.le_of_lt hpm)
    refine ⟨by omega, hb.2, by omega, ?_⟩
    intro he; rw [he]; exact lerpVal_end ho1

theorem legacy_clamped (c : IrCalc) (ur : Int) : legacyCurve c ur = legacyCurve c (clampUr ur) := by
  simp only [legacyCurve, clampUr_idem]

/-- For every accepted legacy configuration and EVERY utilisation
    (clamped by the code since `fix: clamp utilization in the legacy interest curve`) the base
    rate is defined and lies in [0, max_interest_rate]. -/
theorem legacy_bounded_everywhere (c : IrCalc) (hv : validateLegacy c = true) (hmax : c.maxIr ≤ MAX) (ur : Int) :
    ∃ r, legacyCurve c ur = .ok r ∧ 0 ≤ r ∧ r ≤ c.maxIr := by
  have hb := clampUr_bounds ur
  obtain ⟨r, hr, h0, h1, _⟩ := legacy_defined_bounded c hv hmax (clampUr ur) hb.1 hb.2
  exact ⟨r, by rw [legacy_clamped]; exact hr, h0, h1⟩

/-- regression witness of the repaired defect: (optimal 0.8, plateau 0.1, max 1.0) at utilisation
    150 % used to give 3.25; it now gives the configured maximum. -/
def legacyCfg : IrCalc :=
  { optimal := 225179981368524, plateau := 28147497671065, maxIr := 281474976710656, insFixed := 0,
    insRate := 0, grpFixed := 0, grpRate := 0, progFixed := 0, progRate := 0, addProgramFees := false,
    zeroRate := 0, hundredRate := 0, points := [], curveType := 0 }

theorem legacy_clamped_witness :
    validateLegacy legacyCfg = true ∧ legacyCurve legacyCfg (ONE + ONE / 2) = .ok legacyCfg.maxIr := by
  decide

theorem bind_ok {α β : Type} {x : Res α} {f : α → Res β} {b : β} (h : (x >>= f) = .ok b) :
    ∃ a, x = .ok a ∧ f a = .ok b := Res.bind_ok h

theorem ofOpt_ok {α : Type} {o : Option α} {a : α} (h : Res.ofOpt o = .ok a) : o = some a := Res.ofOpt_ok h

theorem assert_ok {x : Int} (h : assertNonneg x = .ok ()) : 0 ≤ x := (Res.of_ite_else_error h).1

/-- what a successful `calc_interest_rate` returns, field by field -/
theorem calc_spec {c : IrCalc} {ur : Int} {r : Rates} (h : calcInterestRate c ur = .ok r) :
    ∃ feeIr feeFixed onePlus b1,
      baseRate c ur = .ok r.base ∧
      mul? r.base ur = some r.lending ∧
      feeIr = c.insRate + c.grpRate + (if c.addProgramFees then c.progRate else 0) ∧
      feeFixed = c.insFixed + c.grpFixed + (if c.addProgramFees then c.progFixed else 0) ∧
      add? ONE feeIr = some onePlus ∧ mul? r.base onePlus = some b1 ∧ add? b1 feeFixed = some r.borrowing ∧
      calcFeeRate r.base c.grpRate c.grpFixed = .ok r.groupFee ∧
      calcFeeRate r.base c.insRate c.insFixed = .ok r.insuranceFee ∧
      calcFeeRate r.base (if c.addProgramFees then c.progRate else 0) (if c.addProgramFees then c.progFixed else 0)
        = .ok r.protocolFee ∧
      0 ≤ r.lending ∧ 0 ≤ r.borrowing ∧ 0 ≤ r.groupFee ∧ 0 ≤ r.insuranceFee ∧ 0 ≤ r.protocolFee := by
  unfold calcInterestRate at h
  apply Res.bind_elim h; clear h; intro feeIr hfi h
  apply Res.bind_elim h; clear h; intro feeFixed hff h
  apply Res.bind_elim h; clear h; intro base hb h
  apply Res.bind_elim h; clear h; intro lending hl h
  apply Res.bind_elim h; clear h; intro onePlus hop h
  apply Res.bind_elim h; clear h; intro b1 hb1 h
  apply Res.bind_elim h; clear h; intro borrowing hbo h
  apply Res.bind_elim h; clear h; intro gf hgf h
  apply Res.bind_elim h; clear h; intro inf hinf h
  apply Res.bind_elim h; clear h; intro pf hpf h
  apply Res.bind_elim h; clear h; intro _ ha1 h
  apply Res.bind_elim h; clear h; intro _ ha2 h
  apply Res.bind_elim h; clear h; intro _ ha3 h
  apply Res.bind_elim h; clear h; intro _ ha4 h
  apply Res.bind_elim h; clear h; intro _ ha5 h
  cases Res.pure_ok h
  obtain ⟨x1, hx1, hfi⟩ := Res.bind_ok hfi
  obtain ⟨y1, hy1, hff⟩ := Res.bind_ok hff
  refine ⟨feeIr, feeFixed, onePlus, b1, hb, Res.ofOpt_ok hl, ?_, ?_, Res.ofOpt_ok hop, Res.ofOpt_ok hb1, Res.ofOpt_ok hbo,
    hgf, hinf, hpf, assert_ok ha1, assert_ok ha2, assert_ok ha3, assert_ok ha4, assert_ok ha5⟩
  · rw [(Res.inRange_ok hfi).1, (Res.inRange_ok hx1).1]
  · rw [(Res.inRange_ok hff).1, (Res.inRange_ok hy1).1]

/-- With non-negative fees (and a non-negative base rate, which every accepted
    curve yields) the borrowing rate is never below the base rate. -/
theorem borrow_ge_base {c : IrCalc} {ur : Int} {r : Rates} (h : calcInterestRate c ur = .ok r)
    (hbase : 0 ≤ r.base)
    (h1 : 0 ≤ c.insRate) (h2 : 0 ≤ c.grpRate) (h3 : 0 ≤ c.progRate)
    (h4 : 0 ≤ c.insFixed) (h5 : 0 ≤ c.grpFixed) (h6 : 0 ≤ c.progFixed) : r.base ≤ r.borrowing := by
  obtain ⟨feeIr, feeFixed, onePlus, b1, _, _, hfi, hff, hop, hb1, hbo, _⟩ := calc_spec h
  have hfi0 : 0 ≤ feeIr := by
    rw [hfi]; exact Int.add_nonneg (Int.add_nonneg h1 h2) (by split; exact h3; exact Int.le_refl 0)
  have hff0 : 0 ≤ feeFixed := by
    rw [hff]; exact Int.add_nonneg (Int.add_nonneg h4 h5) (by split; exact h6; exact Int.le_refl 0)
  -- base = ⌊base·1⌋ ≤ ⌊base·(1 + fees)⌋ ≤ that + fixed fees
  have hb : r.base ≤ b1 := by
    have := Int.ediv_le_ediv ONE_pos (Int.mul_le_mul_of_nonneg_left (Int.le_add_of_nonneg_right hfi0 : ONE ≤ ONE + feeIr) hbase)
    rwa [Int.mul_ediv_cancel _ (Int.ne_of_gt ONE_pos), ← (add?_some hop).1, ← (mul?_some hb1).1] at this
  rw [(add?_some hbo).1]
  exact Int.le_trans hb (Int.le_add_of_nonneg_right hff0)

/-- For utilisation in [0, 100 %] the lending rate is never above the base rate. -/
theorem lend_le_base {c : IrCalc} {ur : Int} {r : Rates} (h : calcInterestRate c ur = .ok r)
    (hbase : 0 ≤ r.base) (hu0 : 0 ≤ ur) (hu1 : ur ≤ ONE) : r.lending ≤ r.base := by
  obtain ⟨_, _, _, _, _, hl, _⟩ := calc_spec h
  have e := (mul?_some hl).1
  have := frac_mul_bounds hbase hu0 hu1
  omega

/-- An accepted seven-point curve cannot by itself make the rate
    computation fail — `baseRate` succeeds for every utilisation; any failure of
    `calc_interest_rate` on such a configuration comes from the fee arithmetic. -/
theorem curve_never_fails (c : IrCalc) (hw : WF c) (hct : c.curveType = 1) (hv : validateSevenPoint c = true)
    (ur : Int) : ∃ r, baseRate c ur = .ok r ∧ 0 ≤ r ∧ r ≤ TEN := by
  obtain ⟨r, hr, h0, h1⟩ := curve_defined_bounded c hw hv ur
  have hzh := (validate_chain c hw hv).2
  have hz := (rate_bounds hw.zero_nonneg (Int.le_trans hzh hw.hundred_le)).1
  have hh := (rate_bounds (Int.le_trans hw.zero_nonneg hzh) hw.hundred_le).2
  exact ⟨r, by simp [baseRate, hct, hr], Int.le_trans hz h0, Int.le_trans h1 hh⟩

/-- (non-vacuity) an accepted seven-point configuration -/
def sampleCfg : IrCalc :=
  { optimal := 0, plateau := 0, maxIr := 0, insFixed := 0, insRate := 28147497671065, grpFixed := 2814749767106,
    grpRate := 0, progFixed := 0, progRate := 0, addProgramFees := false, zeroRate := 42949672,
    hundredRate := 2147483647, points := [⟨2147483647, 214748364⟩, ⟨3865470565, 429496729⟩, ⟨0, 0⟩, ⟨0, 0⟩, ⟨0, 0⟩],
    curveType := 1 }
example : validateSevenPoint sampleCfg = true ∧ WF sampleCfg := by
  refine ⟨by decide, ⟨by decide, by decide, ?_⟩⟩
  intro p hp
  simp [sampleCfg] at hp
  rcases hp with rfl | rfl | rfl <;> decide
example : (calcInterestRate sampleCfg (ONE / 2)).isOk = true := by decide

/-- whatever the permissionless `migrate_curve` succeeds with is a configuration that `validate` accepts — so every theorem of this file
    about accepted curves applies to migrated banks (model Interest.migrateCurve, diffed through the real instruction:
    `ir.migrate` lines of the curve family) -/
theorem migrate_result_valid {c c' : IrCalc} (h : migrateCurve c = .ok c') : validate c' = .ok true := by
  unfold migrateCurve at h
  obtain ⟨ok, hok, h⟩ := Res.bind_ok h
  obtain ⟨hv, h⟩ := Res.of_ite_error h
  by_cases hc : c.curveType = 1
  · rw [if_pos hc] at h
    cases Res.pure_ok h
    rw [hok, (by simpa using hv : ok = true)]
  · rw [if_neg hc] at h
    obtain ⟨ok', hok', h⟩ := Res.bind_ok h
    obtain ⟨hv', h⟩ := Res.of_ite_error h
    cases Res.pure_ok h
    rw [hok', (by simpa using hv' : ok' = true)]

/-- a seven-point curve is left exactly as it is -/
theorem migrate_seven_point_noop {c c' : IrCalc} (hc : c.curveType = 1) (h : migrateCurve c = .ok c') : c' = c := by
  unfold migrateCurve at h
  obtain ⟨ok, _, h⟩ := Res.bind_ok h
  rw [if_pos hc] at h
  exact (Res.pure_ok (Res.of_ite_error h).2).symm

/-- (non-vacuity) a usual legacy curve — optimal 80 %, plateau 10 %, max 300 % — migrates to one point on the u32 grid -/
def usualLegacy : IrCalc :=
  { optimal := ONE * 8 / 10, plateau := ONE / 10, maxIr := 3 * ONE, insFixed := 0, insRate := 0, grpFixed := 0,
    grpRate := 0, progFixed := 0, progRate := 0, addProgramFees := false, zeroRate := 0, hundredRate := 0,
    points := [⟨0, 0⟩, ⟨0, 0⟩, ⟨0, 0⟩, ⟨0, 0⟩, ⟨0, 0⟩], curveType := 0 }

example : ∃ c', migrateCurve usualLegacy = .ok c' ∧ c'.curveType = 1 ∧ c'.zeroRate = 0 := ⟨_, by rfl, by decide, by decide⟩

end Mfi.Props.C18
