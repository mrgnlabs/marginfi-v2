/-
  C20 — Integration exchange-rate math never overstates value and fails closed.
  Theorems about Mfi/Model/Integr.lean (diffed against type-crate price.rs and the three venue
  mocks by the `integr` family).
-/
import Mfi.Lemmas.IntegrL
import Mfi.Props.C02

namespace Mfi.Props.C20
open Mfi Mfi.Fx Mfi.Integr

theorem toI64?_some {a n : Int} (h : toI64? a = some n) : n = a / ONE :=
  (Option.some.inj (opt_ite_else_none h).2).symm

theorem opt_bind_some {α β : Type} {x : Option α} {f : α → Option β} {b : β} (h : (x >>= f) = some b) :
    ∃ a, x = some a ∧ f a = some b := Mfi.opt_bind_some h

theorem mulone_cancel (x c : Int) : x * ONE * c / ONE = x * c := Integr.mulone_cancel x c

theorem adjustI64_some {p r q : Int} (h : adjustI64 p r = some q) : q = p * r / ONE := by
  unfold adjustI64 at h
  obtain ⟨adj, h1, h2⟩ := opt_bind_some h
  cases (mul?_whole h1).1
  exact toI64?_some h2

theorem adjustI128_some {p r q : Int} (h : adjustI128 p r = some q) : q = p * r / ONE := by
  unfold adjustI128 at h
  obtain ⟨fx, h0, h⟩ := opt_bind_some h
  obtain ⟨adj, h1, h2⟩ := opt_bind_some h
  cases Option.some.inj (opt_ite_else_none h0).2
  cases (mul?_whole h1).1
  exact (Option.some.inj h2).symm

/-- the adjusted value never exceeds price × rate and is within one unit of it -/
theorem adjust_floor_bounds (p r : Int) : (p * r / ONE) * ONE ≤ p * r ∧ p * r < (p * r / ONE + 1) * ONE :=
  ⟨mulfloor_le _, Int.lt_ediv_add_one_mul_self _ ONE_pos⟩

theorem adjust_mono_price {p p' r : Int} (hr : 0 ≤ r) (h : p ≤ p') : p * r / ONE ≤ p' * r / ONE :=
  Int.ediv_le_ediv ONE_pos (mul_le_mul_of_nonneg_right h hr)

theorem adjust_mono_rate {p r r' : Int} (hp : 0 ≤ p) (h : r ≤ r') : p * r / ONE ≤ p * r' / ONE :=
  Int.ediv_le_ediv ONE_pos (mul_le_mul_of_nonneg_left h hp)

/-- `adjust_u64` fails closed: a value is returned iff the fixed-point product fits I80F48 and
    its floor fits u64 — never a wrapped value. -/
theorem adjustU64_iff (p r q : Int) :
    adjustU64 p r = some q ↔
      (MIN ≤ p * r ∧ p * r ≤ MAX ∧ q = p * r / ONE ∧ 0 ≤ q ∧ q ≤ U64MAX) := by
  constructor
  · intro h
    obtain ⟨adj, h1, h2⟩ := opt_bind_some h
    obtain ⟨rfl, b0, b1⟩ := mul?_whole h1
    exact ⟨b0, b1, toU64?_some h2⟩
  · rintro ⟨h0, h1, rfl, h2, h3⟩
    unfold adjustU64
    have : mul? (p * ONE) r = some (p * r) := by
      have := mul?_eq (a := p * ONE) (b := r) (by rw [mulone_cancel]; exact h0) (by rw [mulone_cancel]; exact h1)
      rwa [mulone_cancel] at this
    simp only [this, Option.bind_eq_bind, Option.bind_some, toU64?]
    simp [h2, h3]

/-- what `adjust_u64` returns when it returns: exactly ⌊p·r⌋ (r as the rational bits/2^48), in range -/
theorem adjustU64_some {p r q : Int} (h : adjustU64 p r = some q) :
    q = p * r / ONE ∧ 0 ≤ q ∧ q ≤ U64MAX :=
  ((adjustU64_iff p r q).1 h).2.2

/-! ### Kamino / Solend: collateral ⇄ liquidity conversions round down -/

theorem c2l_some {c L C z : Int} (hc : 0 ≤ c) (hL : 0 < L) (hC : 0 < C)
    (h : collateralToLiquidity c L C = some z) : z = c * L * ONE / C / ONE ∧ 0 ≤ z ∧ z ≤ U64MAX := by
  obtain ⟨a, h1, h⟩ := opt_bind_some (opt_ite_none h).2
  obtain ⟨b, h2, h3⟩ := opt_bind_some h
  obtain ⟨rfl, _, _⟩ := mul?_whole h1
  obtain rfl := div?_ediv (Int.mul_nonneg hc (Int.le_of_lt hL)) h2
  exact toU64?_some h3

/-- value of `liquidity_to_collateral_from_scaled` when it succeeds (supplies positive) -/
theorem l2c_some {x L C y : Int} (hx : 0 ≤ x) (hL : 0 < L) (hC : 0 < C)
    (h : liquidityToCollateral x L C = some y) : y = x * C * ONE / L / ONE ∧ 0 ≤ y ∧ y ≤ U64MAX := by
  rw [l2c_eq_c2l] at h
  exact c2l_some hx hC hL h

/-- ⌊⌊a·b·2^48 / c⌋ / 2^48⌋ · c ≤ a·b   (the conversion result times the divisor never exceeds the dividend) -/
theorem conv_floor_le {a b c : Int} (ha : 0 ≤ a) (hb : 0 ≤ b) (hc : 0 < c) :
    (a * b * ONE / c / ONE) * c ≤ a * b := by
  rw [floor_floor _ hc]
  exact Int.ediv_mul_le _ (Int.ne_of_gt hc)

/-- Kamino / Solend round trip (deposit then withdraw): converting liquidity to collateral and
    back never yields more liquidity than was put in — for ALL supplies and amounts. -/
theorem round_trip_liquidity {x L C y z : Int} (hx : 0 ≤ x) (hL : 0 < L) (hC : 0 < C)
    (h1 : liquidityToCollateral x L C = some y) (h2 : collateralToLiquidity y L C = some z) : z ≤ x := by
  obtain ⟨ey, y0, _⟩ := l2c_some hx hL hC h1
  obtain ⟨ez, _, _⟩ := c2l_some y0 hL hC h2
  have hyL : y * L ≤ x * C := by rw [ey]; exact conv_floor_le hx (le_of_lt hC) hL
  -- z·C ≤ y·L ≤ x·C
  have hzC : z * C ≤ y * L := by rw [ez]; exact conv_floor_le y0 (le_of_lt hL) hC
  have : z * C ≤ x * C := le_trans hzC hyL
  exact le_of_mul_le_mul_right this hC

/-- round trip the other way (collateral → liquidity → collateral) never yields more collateral -/
theorem round_trip_collateral {c L C y z : Int} (hc : 0 ≤ c) (hL : 0 < L) (hC : 0 < C)
    (h1 : collateralToLiquidity c L C = some y) (h2 : liquidityToCollateral y L C = some z) : z ≤ c := by
  rw [← l2c_eq_c2l] at h1
  rw [l2c_eq_c2l] at h2
  exact round_trip_liquidity hc hC hL h1 h2

/-- the conversions fail closed: zero collateral supply / zero liquidity supply is an error -/
theorem c2l_zero_supply (c L : Int) : collateralToLiquidity c L 0 = none := by simp [collateralToLiquidity]
theorem l2c_zero_supply (x C : Int) : liquidityToCollateral x 0 C = none := by simp [liquidityToCollateral]

theorem chkU64_some {x y : Int} (h : chkU64 x = some y) : y = x ∧ 0 ≤ x ∧ x ≤ U64MAX :=
  ⟨(ite_some h).2.symm, (ite_some h).1⟩

theorem chkU128_some {x y : Int} (h : chkU128 x = some y) : y = x ∧ 0 ≤ x ∧ x ≤ U128MAX :=
  ⟨(ite_some h).2.symm, (ite_some h).1⟩

theorem precision_pos {d p : Int} (h : precisionIncrease d = some p) : 0 < p := by
  cases Option.some.inj (opt_ite_else_none (opt_ite_none h).2).2
  positivity

/-- value of `get_scaled_balance_increment` when it succeeds (`cum` is a u128: non-negative) -/
theorem inc_some {d cum a s : Int} (hcum : 0 ≤ cum) (h : scaledBalanceIncrement d cum a = some s) :
    ∃ p, precisionIncrease d = some p ∧ 0 < cum ∧ s = a * p / cum ∧ 0 ≤ a * p := by
  obtain ⟨p, hp, hc, m0, es⟩ := scaledBalance_some hcum h
  exact ⟨p, hp, hc, (Option.some.inj es).symm, m0⟩

theorem dec_some {d cum a s : Int} (hcum : 0 ≤ cum) (h : scaledBalanceDecrement d cum a = some s) :
    ∃ p, precisionIncrease d = some p ∧ 0 < cum ∧
      s = (if a * p / cum = 0 then 0 else a * p / cum + 1) := by
  obtain ⟨p, hp, hc, _, es⟩ := scaledBalance_some hcum h
  refine ⟨p, hp, hc, ?_⟩
  by_cases hz : a * p / cum = 0
  · simp [hz] at es ⊢; exact es.symm
  · simp only [Bool.true_and, bne_iff_ne, ne_eq, hz, not_false_eq_true, ↓reduceIte] at es ⊢
    exact (chkU64_some es).1

theorem wd_some {d cum sb t : Int} (h : withdrawTokenAmount d cum sb = some t) :
    ∃ p, precisionIncrease d = some p ∧ t = sb * cum / p := by
  unfold withdrawTokenAmount at h
  obtain ⟨p, hp, h⟩ := opt_bind_some h
  obtain ⟨m, hm, h⟩ := opt_bind_some h
  obtain ⟨em, _, _⟩ := chkU128_some hm
  obtain ⟨e, _, _⟩ := chkU64_some (opt_ite_none h).2
  exact ⟨p, hp, by rw [e, em]⟩

/-- Withdrawing the scaled balance that a deposit of `a` minted returns at
    most `a` tokens — for all decimals ≤ 19, all cumulative-interest values, all amounts. -/
theorem drift_round_trip {d cum a s t : Int} (hcum : 0 ≤ cum)
    (h1 : scaledBalanceIncrement d cum a = some s) (h2 : withdrawTokenAmount d cum s = some t) : t ≤ a := by
  obtain ⟨p, hp, hc, es, hap⟩ := inc_some hcum h1
  obtain ⟨p', hp', et⟩ := wd_some h2
  cases hp.symm.trans hp'
  have hp0 := precision_pos hp
  have h3 : s * cum ≤ a * p := by rw [es]; exact Int.ediv_mul_le _ (by omega)
  have : s * cum / p ≤ a * p / p := Int.ediv_le_ediv hp0 h3
  rw [Int.mul_ediv_cancel _ (by omega)] at this
  omega

/-- A withdrawal of an amount burns at least the scaled balance
    a deposit of the same amount mints. -/
theorem drift_decrement_ge_increment {d cum a s s' : Int} (hcum : 0 ≤ cum)
    (h1 : scaledBalanceIncrement d cum a = some s) (h2 : scaledBalanceDecrement d cum a = some s') : s ≤ s' := by
  obtain ⟨p, hp, _, es, _⟩ := inc_some hcum h1
  obtain ⟨p', hp', _, es'⟩ := dec_some hcum h2
  cases hp.symm.trans hp'
  rw [es, es']
  split <;> omega

/-- Drift price adjustment is exactly ⌊p·cum / 10^10⌋ — never above price × exact rate, monotone. -/
theorem drift_adjust_exact {cum p q : Int} (h : driftAdjustU64 cum p = some q) :
    q = p * cum / SPOT_CUM_PRECISION ∧ q * SPOT_CUM_PRECISION ≤ p * cum := by
  unfold driftAdjustU64 driftAdjustU128 at h
  obtain ⟨a, ha, h⟩ := opt_bind_some h
  obtain ⟨m, hm, ha⟩ := opt_bind_some ha
  obtain ⟨em, _, _⟩ := chkU128_some hm
  injection ha with ha
  obtain ⟨e, _, _⟩ := chkU64_some h
  subst em; subst ha; subst e
  exact ⟨rfl, Int.ediv_mul_le _ (by decide)⟩

theorem drift_adjust_i64_fail_closed {cum p : Int} (hp : p < 0) : driftAdjustI64 cum p = none := by
  simp [driftAdjustI64, hp]

/-- a venue reserve / market not refreshed in the current slot (second) is stale -/
theorem kamino_stale_iff (s c : Int) : kaminoStale s c = true ↔ s < c := by simp [kaminoStale]
theorem solend_stale_iff (s c : Int) : solendStale s c = true ↔ s < c := by simp [solendStale]
theorem drift_stale_iff (s c : Int) : driftStale s c = true ↔ s < c := by simp [driftStale]

section arms
open Mfi.Gen.Ora

/-- Where prices are made (the adapter arms of state/price.rs, regenerated on every run) each of the
    six venue-backed arms applies the staleness test, to the venue account it has just key- and owner-checked, BEFORE
    loading a price, and against the right clock — Kamino: the slot, Drift: the unix time, Solend: the Clock sysvar -/
theorem stale_wired :
    (arms.filterMap fun a =>
        match a.2.findIdx? (fun | .venueStaleCheck _ => true | _ => false), a.2.findIdx? (fun | .loadPyth _ | .loadSwb _ => true | _ => false),
              a.2.findIdx? (· == .venueLoader 1), a.2.findSome? (fun | .venueStaleCheck c => some c | _ => none) with
        | some s, some l, some v, some c => if v < s ∧ s < l then some (a.1, c) else none
        | _, _, _, _ => none) =
      [(.sDriftPythPull, .unixTs), (.sDriftSwitchboardPull, .unixTs), (.sKaminoPythPush, .slot), (.sKaminoSwitchboardPull, .slot),
       (.sSolendPythPull, .sysvar), (.sSolendSwitchboardPull, .sysvar)] := by decide

end arms

/-- the adjusted price is the floor of price × the ratio the program computed (partial statement:
    relative to the *used* ratio) -/
theorem adjusted_le_price_times_used_ratio {p r q : Int} (h : adjustI64 p r = some q) :
    q * ONE ≤ p * r := by
  rw [adjustI64_some h]; exact mulfloor_le _

/-- The full property "adjusted price ≤ price × EXACT exchange rate" is FALSE of model and code:
    the program divides both supplies by 10^decimals (truncating) before taking the ratio, and
    truncating the denominator makes the used ratio exceed the exact one. Witness: a reserve with
    6 raw liquidity units, 3 raw collateral units, 9 decimals (exact rate 2): a Switchboard-scale
    price 10^12 is adjusted to 2 000 001 184 239 > 2·10^12, and a Pyth price 10^10 to
    20 000 011 842 > 2·10^10. (Replayed on the real functions by the C20 monitor; known finding C20-F1.) -/
theorem adjusted_price_can_exceed_exact :
    (match scaleSupplies (6 * ONE) 3 9 with
     | some (l, c) => (usedRatio l c).bind (adjustI128 1000000000000)
     | none => none) = some 2000001184239 ∧
    (match scaleSupplies (6 * ONE) 3 9 with
     | some (l, c) => (usedRatio l c).bind (adjustI64 10000000000)
     | none => none) = some 20000011842 := by decide

/-- The same truncation shows in the conversion itself: "collateral to liquidity never exceeds the exact value" is FALSE of model
    and code by one native unit when the exact value lies just below a whole number. Witness (found by the venue monitor on a
    multi-seed sweep; known finding C20-F2): a Solend reserve with 6 188 002 000 001 raw liquidity, 2 062 747 777 319 raw collateral,
    9 decimals; 2 062 747 110 626 collateral is worth 6 187 999 999 999.99999… tokens, the program announces 6 188 000 000 000. -/
theorem conversion_can_exceed_exact :
    (match scaleSupplies (6188002000001 * ONE) 2062747777319 9 with
     | some (l, c) => collateralToLiquidity 2062747110626 l c
     | none => none) = some 6188000000000 ∧
    2062747110626 * 6188002000001 / 2062747777319 = (6187999999999 : Int) := by decide

/-- scale_supplies / convert_decimals divide and multiply by rows of the table: that table is exactly the powers of ten 10^0 .. 10^23 as I80F48 (regenerated from the real
    constants on every run; the model computes its own powers of ten and is diffed against the real functions across
    ALL 24 decimals) -/
theorem scaling_table_is_powers_of_ten : Mfi.Gen.EXP_10_I80F48 = Mfi.Fx.POW10FX := Mfi.ConstL.exp10_table_exact

/-- A Solend reserve that was not refreshed in the current slot is refused at the door: both Solend instructions carry
    the constraint `!reserve.is_stale()?` (the slot comparison of `solendStale`, diffed by the integr family) on the
    reserve account — regenerated constraint table; the Kamino and Drift instructions refresh through the venue's own
    CPI, their oracle arms test freshness themselves (C09.venue_fresh) -/
theorem solend_reserve_fresh_at_the_door :
    Mfi.Gen.Acc.hasCons .SolendDeposit .f_integration_acc_1 (.venueFresh .f_integration_acc_1) = true ∧
    Mfi.Gen.Acc.hasCons .SolendWithdraw .f_integration_acc_1 (.venueFresh .f_integration_acc_1) = true := by decide

/-- the venue bindings of the Kamino / Solend / Drift instructions (reserve / market mint = bank mint, obligation and spot-position checks, venue program ownership) have no recognised kind in the generated constraint table; their text is pinned by fingerprint
    (C08.unclassified_constraints_pinned), so an edit of any of them breaks an obligation of this property too -/
theorem unclassified_constraints_pinned :
    Mfi.Gen.Acc.otherFingerprints =
      [(.LendingPoolAddBankKamino, .f_integration_acc_1, 1294895318964715725), (.KaminoDeposit, .f_integration_acc_2, 102789841884831255),
       (.KaminoDeposit, .f_integration_acc_2, 2232305478470895852), (.KaminoWithdraw, .f_integration_acc_2, 2232305478470895852),
       (.KaminoWithdraw, .f_integration_acc_2, 102789841884831255), (.LendingAccountSettleEmissions, .f_marginfi_account, 1925430640847475726),
       (.LendingPoolAddBankSolend, .f_integration_acc_1, 1481642461694787521),
       (.SolendDeposit, .f_integration_acc_2, 1332785733999453949), (.SolendWithdraw, .f_integration_acc_2, 1332785733999453949),
       (.LendingPoolUpdateFeesDestinationAccount, .f_destination_account, 2287509815940661847), (.LendingPoolWithdrawFeesPermissionless, .f_fees_destination_account, 442390752958412362),
       (.PropagateStakedSettings, .f_bank, 192467567798966075), (.LendingPoolAddBankDrift, .f_integration_acc_1, 778144333709451630),
       (.DriftDeposit, .f_integration_acc_2, 3003145849582993), (.DriftDeposit, .f_integration_acc_1, 1555694171009604275),
       (.DriftHarvestReward, .f_integration_acc_2, 522844572761367543), (.DriftHarvestReward, .f_harvest_drift_spot_market, 1082706562961323273),
       (.DriftHarvestReward, .f_harvest_drift_spot_market, 2159362736921184234), (.DriftWithdraw, .f_integration_acc_2, 3003145849582993),
       (.DriftWithdraw, .f_integration_acc_2, 471323873936025127), (.DriftWithdraw, .f_integration_acc_2, 1377500195096470279),
       (.DriftWithdraw, .f_integration_acc_1, 1555694171009604275)] :=
  Mfi.Props.C08.unclassified_constraints_pinned

/-- Fails closed on a venue that answers something else than announced (instruction level, model Mfi/Model/Venue.lean
    diffed through the real kamino_deposit by the `venue` family): when the collateral in the bank's obligation moved by two
    units or more away from marginfi's own conversion of the deposit, the deposit is refused and nothing is booked -/
theorem kamino_deposit_rejects_misreport {now expected pre post : Int} {b : Mfi.Bank.Bank} {bal : Option Mfi.Bank.Balance}
    (hm : 1 < (post - pre) - expected ∨ 1 < expected - (post - pre)) :
    ∀ o, Mfi.Venue.kaminoDeposit now b bal expected pre post ≠ .ok o :=
  Mfi.Props.C02.kamino_deposit_rejects_misreport hm

/-- an accepted Kamino withdrawal took exactly the collateral asked for out of the obligation and paid out what arrived,
    which is within one unit of marginfi's own conversion of that collateral -/
theorem kamino_withdraw_checked {now amount obPre obPost vPre vPost : Int} {all : Bool} {expectedOf : Int → Int}
    {b : Mfi.Bank.Bank} {x : Mfi.Bank.Balance} {o : Mfi.Venue.WOut}
    (h : Mfi.Venue.kaminoWithdraw now b (some x) amount all expectedOf obPre obPost vPre vPost = .ok o) :
    obPre - obPost = o.collateral ∧ o.paid = vPost - vPre ∧
    o.paid - expectedOf o.collateral ≤ 1 ∧ expectedOf o.collateral - o.paid ≤ 1 := by
  obtain ⟨h1, h2, _, h4, h5, _⟩ := Mfi.Props.C02.kamino_withdraw_spec h
  exact ⟨h1, h2, h4, h5⟩

section whole_instructions
open Mfi Mfi.Venue Mfi.Integr Mfi.Bank

/-- a withdrawal's scaled decrement, when it is not zero, is worth STRICTLY MORE than the amount -/
theorem decrement_covers {dec cum a e P : Int} (h : scaledBalanceDecrement dec cum a = some e)
    (hP : precisionIncrease dec = some P) (hc : 0 ≤ cum) (he : e ≠ 0) : a * P < e * cum := by
  obtain ⟨p, hp, hcp, es⟩ := dec_some hc h
  cases hP.symm.trans hp
  by_cases hz : a * P / cum = 0
  · simp [hz] at es; exact absurd es he
  · simp only [hz, if_false] at es
    rw [es]
    exact Int.lt_ediv_add_one_mul_self _ hcp

theorem all_amounts_decrement {dec cum sb t e : Int} (h : driftAllAmounts dec cum sb = some (t, e)) :
    scaledBalanceDecrement dec cum t = some e := by
  unfold driftAllAmounts at h
  revert h
  cases withdrawTokenAmount dec cum sb with
  | none => intro h; cases h
  | some t0 =>
    dsimp only
    cases he0 : scaledBalanceDecrement dec cum t0 with
    | none => intro h; cases h
    | some e0 =>
      dsimp only
      by_cases hb : e0 = sb + 1 ∧ t0 > 0
      · rw [if_pos hb]
        cases he1 : scaledBalanceDecrement dec cum (t0 - 1) with
        | none => intro h; cases h
        | some e1 => intro h; cases Option.some.inj h; exact he1
      · rw [if_neg hb]; intro h; cases Option.some.inj h; exact he0

theorem partial_amounts_decrement {dec cum amount shares t d : Int} (h : driftPartialAmounts dec cum amount shares = .ok (some (t, d))) :
    scaledBalanceDecrement dec cum t = some d := by
  unfold driftPartialAmounts at h
  revert h
  cases hd0 : scaledBalanceDecrement dec cum amount with
  | none => intro h; cases h
  | some d0 =>
    dsimp only
    intro h
    obtain ⟨_, h⟩ := Res.of_ite_error h
    by_cases hb : d0 = shares + 1
    · rw [if_pos hb] at h
      revert h
      cases withdrawTokenAmount dec cum shares with
      | none => intro h; cases h
      | some t1 =>
        dsimp only
        cases hd1 : scaledBalanceDecrement dec cum t1 with
        | none => intro h; cases h
        | some d1 => intro h; cases Res.pure_ok h; exact hd1
    · rw [if_neg hb] at h; cases Res.pure_ok h; exact hd0

/-- Whatever branch `drift_withdraw` takes — partial, partial on the
    one-unit boundary (amount recomputed from the position's shares), complete, complete with the one-base-unit reduction —
    the scaled-balance change it debits and announces is Drift's own decrement of exactly the token amount it asks for -/
theorem drift_plan_announces_the_decrement_of_what_it_asks_for {now amount dec cum : Int} {b : Bank} {x : Balance} {all : Bool} {p : DPlan}
    (h : driftWithdrawPlan now b x amount all dec cum = .ok p) :
    scaledBalanceDecrement dec cum p.tokens = some p.scaled := by
  unfold driftWithdrawPlan at h
  cases all with
  | true =>
    rw [if_pos rfl] at h
    obtain ⟨⟨b', x', sb⟩, _, h⟩ := Res.bind_ok h
    revert h
    dsimp only
    cases hsel : driftAllAmounts dec cum sb with
    | none => intro h; cases h
    | some te =>
      intro h
      cases Res.pure_ok (Res.of_ite_error h).2
      exact all_amounts_decrement hsel
  | false =>
    rw [if_neg Bool.false_ne_true] at h
    obtain ⟨sel, hsel, h⟩ := Res.bind_ok h
    cases sel with
    | none => cases h
    | some td =>
      obtain ⟨⟨b', x'⟩, _, h⟩ := Res.bind_ok h
      cases Res.pure_ok h
      exact partial_amounts_decrement hsel

/-- The tokens a Drift withdrawal asks the venue for (and forwards to the user) are worth
    STRICTLY LESS than the scaled balance it debits, at the market's exchange rate — in every branch. (The one exception is the
    venue's own: a request worth less than one scaled unit costs no scaled balance at all, `scaled = 0`.) -/
theorem drift_withdraw_never_overpays {now amount dec cum P : Int} {b : Bank} {x : Balance} {all : Bool} {p : DPlan}
    (h : driftWithdrawPlan now b x amount all dec cum = .ok p) (hP : precisionIncrease dec = some P) (hc : 0 ≤ cum)
    (hs : p.scaled ≠ 0) : p.tokens * P < p.scaled * cum :=
  decrement_covers (drift_plan_announces_the_decrement_of_what_it_asks_for h) hP hc hs

/-- An accepted Drift deposit credits exactly the scaled balance the venue credited, and
    that is at most amount x precision / cumulative interest -/
theorem drift_deposit_never_overcredits {now amount dec cum pre post P credited : Int} {b b' : Bank} {bal x' : Option Balance}
    (h : driftDeposit now b bal amount dec cum pre post = .ok (b', x', credited)) (hP : precisionIncrease dec = some P) (hc : 0 ≤ cum) :
    credited = post - pre ∧ credited * cum ≤ amount * P := by
  obtain ⟨e, hinc, _⟩ := Mfi.Props.C02.drift_deposit_spec h
  obtain ⟨p, hp, hcp, es, _⟩ := inc_some hc hinc
  cases hP.symm.trans hp
  exact ⟨e, es ▸ Int.ediv_mul_le _ (Int.ne_of_gt hcp)⟩

end whole_instructions

end Mfi.Props.C20
