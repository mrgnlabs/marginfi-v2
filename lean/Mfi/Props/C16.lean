/-
  C16 — Account structure: one side per bank, sorted, compatible tags, bounded.
  Theorems about Mfi/Model/Account.lean (diffed by the `account` family against the real find_or_create /
  sort_balances / validate_asset_tags / can_be_closed) and Mfi/Model/Bank.lean (one-side invariant of the
  wrapper operations), plus `decide`d facts over the regenerated handler skeletons and constraint table.
  The instruction-level monitor (real dispatch) re-checks the same structure after every instruction.
-/
import Mfi.Gen.TxLists
import Mfi.Lemmas.SkelL
import Mfi.Lemmas.WorldShape
import Mfi.Lemmas.WorldTxL

namespace Mfi.Props.C16
open Mfi Mfi.Account Mfi.Gen

/-- distinct active slots have distinct banks -/
def NoDup (s : List Slot) : Prop :=
  ∀ (i j : Nat) (x y : Slot), s[i]? = some x → s[j]? = some y → i ≠ j → x.active = true → y.active = true → x.bank ≠ y.bank

theorem findIdx_none {s : List Slot} {bank : Nat} (h : findIdx s bank = none) :
    ∀ x ∈ s, x.active = true → x.bank ≠ bank := Mfi.Account.findIdx_none h

theorem firstEmpty_some {s : List Slot} {i : Nat} (h : firstEmpty s = some i) :
    ∃ x, s[i]? = some x ∧ x.active = false := Mfi.Account.firstEmpty_some h

/-- `find_or_create` keeps one position per bank: it returns the existing slot of the bank, or opens
    a fresh empty slot carrying the bank's asset tag; no second slot for a bank can appear. -/
theorem findOrCreate_nodup {s s' : List Slot} {bank : Nat} {tag now : Int} {i : Nat}
    (h : findOrCreate s bank tag now = .ok (s', i)) (hn : NoDup s) :
    NoDup s' ∧ s'.length = s.length ∧
    (∃ x, s'[i]? = some x ∧ x.active = true ∧ x.bank = bank) := by
  rcases findOrCreate_ok h with ⟨hf, rfl⟩ | ⟨hf, ⟨e, hie, _⟩, rfl⟩
  · exact ⟨hn, rfl, findIdx_some hf⟩
  · have hfresh := findIdx_none hf
    refine ⟨?_, List.length_set .., _, List.getElem?_set_self (List.getElem?_eq_some_iff.mp hie).1, rfl, rfl⟩
    -- the fresh slot's bank differs from every active slot's; the other slots are as they were
    intro a b x y hx hy hab hxa hya
    rcases ListL.getElem?_set_cases hie hx with ⟨rfl, rfl⟩ | ⟨_, hx⟩
    · rcases ListL.getElem?_set_cases hie hy with ⟨hib, _⟩ | ⟨_, hy⟩
      · exact absurd hib hab
      · exact fun hb => hfresh y (List.mem_of_getElem? hy) hya hb.symm
    · rcases ListL.getElem?_set_cases hie hy with ⟨rfl, rfl⟩ | ⟨_, hy⟩
      · exact hfresh x (List.mem_of_getElem? hx) hxa
      · exact hn a b x y hx hy hab hxa hya

/-- a freshly opened position carries the bank's asset tag and is empty -/
theorem findOrCreate_fresh_tag {s s' : List Slot} {bank : Nat} {tag now : Int} {i : Nat}
    (h : findOrCreate s bank tag now = .ok (s', i)) (hnone : findIdx s bank = none) :
    s'[i]? = some { active := true, bank, tag, a := 0, l := 0, emis := 0, lastUpdate := now } := by
  rcases findOrCreate_ok h with ⟨hf, _⟩ | ⟨_, ⟨e, hie, _⟩, rfl⟩
  · rw [hnone] at hf; cases hf
  · exact List.getElem?_set_self (List.getElem?_eq_some_iff.mp hie).1

/-- Integration cap: a new Kamino/Drift/Solend position is refused when the account already holds
    MAX_INTEGRATION_POSITIONS (8) of them -/
theorem integration_cap {s : List Slot} {bank : Nat} {tag now : Int}
    (hnone : findIdx s bank = none) (hint : isIntegrationTag tag = true) (hfull : 8 ≤ integrationCount s) :
    findOrCreate s bank tag now = .error (.err E.IntegrationPositionLimitExceeded) := by
  unfold findOrCreate
  simp only [hnone, hint, Bool.true_and]
  have : ¬ integrationCount s < MAX_INTEGRATION_POSITIONS.toNat := by
    have : MAX_INTEGRATION_POSITIONS.toNat = 8 := by decide
    omega
  simp [this]

/-- the account never holds more than 16 positions: the array length is fixed -/
theorem findOrCreate_length {s s' : List Slot} {bank : Nat} {tag now : Int} {i : Nat}
    (h : findOrCreate s bank tag now = .ok (s', i)) : s'.length = s.length := by
  rcases findOrCreate_ok h with ⟨_, rfl⟩ | ⟨_, _, rfl⟩
  · rfl
  · exact List.length_set ..

theorem le_trans' : ∀ (a b c : Slot), decide (a.bank ≥ b.bank) = true → decide (b.bank ≥ c.bank) = true →
    decide (a.bank ≥ c.bank) = true := Mfi.Account.le_trans'

theorem le_total' : ∀ (a b : Slot), (decide (a.bank ≥ b.bank) || decide (b.bank ≥ a.bank)) = true := Mfi.Account.le_total'

/-- Sorted as the risk engine expects: after `sort_balances` the bank keys are non-increasing along the
    array (inactive slots carry the zero key and therefore come last), and the array is a permutation of
    what it was — no position is created, lost or altered by sorting. -/
theorem sort_sorted_perm (s : List Slot) :
    (sortBalances s).Pairwise (fun x y => x.bank ≥ y.bank) ∧ (sortBalances s).Perm s :=
  ⟨sort_pairwise s, sort_perm s⟩

theorem sort_idempotent (s : List Slot) : sortBalances (sortBalances s) = sortBalances s := by
  unfold sortBalances
  exact List.mergeSort_of_pairwise (List.pairwise_mergeSort le_trans' le_total' s)

/-- No staked/default mixing: if `validate_asset_tags` accepts the bank, then opening a position in
    it cannot create an account that holds both a staked-collateral position and a default-class one. -/
theorem tags_no_mix {s : List Slot} {tag : Int} (h : validateAssetTags s tag = .ok ())
    (hinv : ¬ (hasStaked s = true ∧ hasDefault s = true)) :
    ¬ ((hasStaked s || decide (tag = ASSET_TAG_STAKED)) = true ∧ (hasDefault s || isDefaultLike tag) = true) := by
  unfold validateAssetTags at h
  obtain ⟨_, h⟩ := Res.of_ite_error h
  obtain ⟨h1, h⟩ := Res.of_ite_error h
  obtain ⟨h2, _⟩ := Res.of_ite_error h
  simp only [Bool.and_eq_true, not_and, Bool.not_eq_true] at h1 h2
  intro ⟨ha, hb⟩
  simp only [Bool.or_eq_true, decide_eq_true_eq] at ha hb
  have hdl_not_staked : isDefaultLike ASSET_TAG_STAKED = false := by decide
  rcases ha with ha | ha <;> rcases hb with hb | hb
  · exact hinv ⟨ha, hb⟩
  · have := h1 hb; rw [ha] at this; cases this
  · have : (tag == ASSET_TAG_STAKED) = true := by simp [ha]
    have := h2 this; rw [hb] at this; cases this
  · rw [ha, hdl_not_staked] at hb; cases hb

open Mfi.Bank Mfi.Fx in
/-- A successful balance increase never leaves a position with ≥ 1 share on both
    sides: if debt remains the deposit side was not touched, and if the deposit side grew the debt was
    repaid down to a truncation residue of at most two 2^-48 ulps (share values ≥ 1, as liability share
    values always are). -/
theorem one_side_increase {b0 b' : Bank} {x0 x' : Balance} {now delta : Int} {t : IncType}
    (h : increaseBalance b0 x0 now delta t = .ok (b', x'))
    (hd : 0 ≤ delta) (hasv : 0 < b0.asv) (hlsv : ONE ≤ b0.lsv) (ha : 0 ≤ x0.a) (hl : 0 ≤ x0.l)
    (hinv : x0.a < ONE ∨ x0.l < ONE) : x'.a < ONE ∨ x'.l < ONE := by
  have hONE := ONE_pos
  have hlsv0 : 0 < b0.lsv := by omega
  rw [(increase_moved h).a, (increase_moved h).l]
  by_cases hcase : delta ≤ x0.l * b0.lsv / ONE
  · -- nothing is credited to the deposit side, and the debt side does not grow
    rw [show max (delta - x0.l * b0.lsv / ONE) 0 = 0 by omega, sharesOf_zero]
    have := sharesOf_nonneg (v := min (x0.l * b0.lsv / ONE) delta) (by omega) (le_of_lt hlsv0)
    omega
  · -- the whole debt is repaid: what stays is the residue of the round trip shares → amount → shares, below two shares
    right
    rw [show min (x0.l * b0.lsv / ONE) delta = x0.l * b0.lsv / ONE by omega]
    have hr := sharesOf_amount_residue hl hlsv0
    have : x0.l - sharesOf (x0.l * b0.lsv / ONE) b0.lsv < 2 :=
      Int.lt_of_mul_lt_mul_right (by omega) (le_of_lt hlsv0)
    have : (2 : Int) ≤ ONE := by decide
    omega

/-- An account can be closed iff it is not disabled, not in a flash loan, not in
    receivership and every slot is empty on both sides (frozen accounts are additionally stopped by the
    `has_one = authority` + freeze rules of C08; `can_be_closed` itself does not look at the frozen flag). -/
theorem close_ok_iff (s : List Slot) (d f r : Bool) (b : Bool) (h : canBeClosed s d f r = .ok b) :
    b = true → d = false ∧ f = false ∧ r = false ∧ allNone s = .ok true := by
  unfold canBeClosed at h
  obtain ⟨e, he, h⟩ := Res.bind_ok h
  injection h with h
  intro hb
  -- the verdict is a conjunction of four
  rw [hb, Bool.and_eq_true, Bool.and_eq_true, Bool.and_eq_true, Bool.not_eq_true', Bool.not_eq_true', Bool.not_eq_true'] at h
  exact ⟨h.1.1.1, h.1.2, h.2, h.1.1.2 ▸ he⟩

open Mfi.Gen.Skel in
/-- Deposit, withdraw, borrow, repay and close-balance test ACCOUNT_DISABLED before any
    share-moving call (skeletons regenerated from the source) -/
theorem disabled_gates :
    ∀ h ∈ [deposit, withdraw, borrow, repay, close_balance],
      occursBefore h (· == .acctFlag .disabled) isOp = true := by decide

open Mfi.Gen.Skel in
/-- The close instruction itself: `marginfi_account_close` refuses a FROZEN account in its handler — whoever pays the
    fees and receives the rent — and then asks `can_be_closed` (empty, not disabled, not in a flash loan, not in
    receivership: close_ok_iff); both on every path (skeleton regenerated from instructions/marginfi_account/close.rs) -/
theorem close_checks_frozen_then_can_be_closed :
    close_account = [.acctFlag .frozen, .canBeClosed] ∧ close_account_cond = [0, 0] := by decide

open Mfi.Gen.Skel in
/-- On every path: the ACCOUNT_DISABLED test sits at conditional depth 0 of each of these handlers -/
theorem disabled_gates_unconditional :
    ∀ h ∈ [(deposit, deposit_cond), (withdraw, withdraw_cond), (borrow, borrow_cond), (repay, repay_cond),
           (close_balance, close_balance_cond)],
      unconditionally h.1 h.2 (· == .acctFlag .disabled) = true := by decide

open Mfi.Gen.Skel in
/-- every position-changing user handler re-sorts the array after the change -/
theorem handlers_sort_after_change :
    ∀ h ∈ [deposit, withdraw, borrow, repay, close_balance, liquidate, kamino_deposit, kamino_withdraw,
           drift_deposit, drift_withdraw, solend_deposit, solend_withdraw],
      (match lastIdx h isOp, lastIdx h (· == .sort) with
       | some i, some j => decide (i < j)
       | _, _ => false) = true := by decide

section transfer
open Mfi.Transfer

/-- A successful transfer hands the whole position array (every slot, with its
    shares, tag, emissions and timestamps), the emissions destination and the flag word to the new account under
    the new authority, leaves the old account with sixteen empty slots, disabled, linked to the new key — and it
    only happens for an un-migrated account outside flash loans and receivership, on the signer's authority. -/
theorem transfer_moves_everything {old o' n : MAcct} {oldKey g ga cfw signer newKey newAuth fw : Nat} {p : Bool} {now : Int}
    (h : transfer old oldKey g ga cfw p signer newKey newAuth fw now = .ok (o', n)) :
    n.slots = old.slots ∧ n.authority = newAuth ∧ n.group = old.group ∧ n.emisDest = old.emisDest ∧
    n.migratedFrom = oldKey ∧ n.migratedTo = 0 ∧
    (n.disabled, n.flash, n.recv, n.frozen, n.otherFlags) = (old.disabled, false, false, old.frozen, old.otherFlags) ∧
    o'.slots = zeroedSlots ∧ (∀ x ∈ o'.slots, x.active = false) ∧ o'.disabled = true ∧ o'.migratedTo = newKey ∧
    o'.authority = old.authority ∧
    old.migratedTo = 0 ∧ p = false ∧ old.group = g ∧
    Auth.isSignerAuthorized (view old) ga signer false = true := by
  obtain ⟨hp, hg, _, hauth, _, hf, hr, hm, rfl, rfl⟩ := transfer_ok h
  refine ⟨rfl, rfl, rfl, rfl, rfl, rfl, ?_, rfl, ?_, rfl, rfl, rfl, hm, hp, hg, hauth⟩
  · rw [hf, hr]
  · intro x hx
    cases List.eq_of_mem_replicate hx
    rfl

/-- Once an account has been transferred to a real (non-default) key, every further transfer
    of it is refused, whoever signs, whatever the target -/
theorem transfer_once {old o' n : MAcct} {oldKey g ga cfw signer newKey newAuth fw : Nat} {p : Bool} {now : Int}
    (h : transfer old oldKey g ga cfw p signer newKey newAuth fw now = .ok (o', n)) (hk : newKey ≠ 0) :
    ∀ oldKey' g' ga' cfw' p' signer' newKey' newAuth' fw' now',
      ∃ e, transfer o' oldKey' g' ga' cfw' p' signer' newKey' newAuth' fw' now' = .error e := by
  intro oldKey' g' ga' cfw' p' signer' newKey' newAuth' fw' now'
  cases ht : transfer o' oldKey' g' ga' cfw' p' signer' newKey' newAuth' fw' now' with
  | error e => exact ⟨e, rfl⟩
  | ok r => exact absurd ((transfer_link h).2.symm.trans (transfer_link (o := r.1) (n := r.2) ht).1) hk

/-- a migrated account stays migrated: `transfer` is the only step of the model that writes `migratedTo`, and it
    only ever writes it from 0 — so over ANY sequence of transfer attempts on one account (any signers, targets,
    times) at most one succeeds. `attempts` runs the attempts in order on the evolving old account and counts. -/
def attempts (oldKey g ga cfw : Nat) : MAcct → List (Bool × Nat × Nat × Nat × Nat × Int) → Nat
  | _, [] => 0
  | a, (p, signer, newKey, newAuth, fw, now) :: rest =>
    match transfer a oldKey g ga cfw p signer newKey newAuth fw now with
    | .ok (a', _) => 1 + attempts oldKey g ga cfw a' rest
    | .error _ => attempts oldKey g ga cfw a rest

theorem migrated_never_again (oldKey g ga cfw : Nat) :
    ∀ (l : List (Bool × Nat × Nat × Nat × Nat × Int)) (a : MAcct), a.migratedTo ≠ 0 → attempts oldKey g ga cfw a l = 0 := by
  intro l
  induction l with
  | nil => intro a _; rfl
  | cons x rest ih =>
    intro a ha
    obtain ⟨p, signer, newKey, newAuth, fw, now⟩ := x
    unfold attempts
    cases ht : transfer a oldKey g ga cfw p signer newKey newAuth fw now with
    | error e => exact ih a ha
    | ok r =>
      obtain ⟨a', n⟩ := r
      exact absurd (transfer_link ht).1 ha

/-- over every history of attempts (new keys being real keys) at most one transfer succeeds -/
theorem transfer_at_most_once (oldKey g ga cfw : Nat) :
    ∀ (l : List (Bool × Nat × Nat × Nat × Nat × Int)) (a : MAcct), (∀ x ∈ l, x.2.2.1 ≠ 0) → attempts oldKey g ga cfw a l ≤ 1 := by
  intro l
  induction l with
  | nil => intro a _; exact Nat.zero_le _
  | cons x rest ih =>
    intro a hall
    obtain ⟨p, signer, newKey, newAuth, fw, now⟩ := x
    unfold attempts
    cases ht : transfer a oldKey g ga cfw p signer newKey newAuth fw now with
    | error e => exact ih a (fun y hy => hall y (List.mem_cons_of_mem _ hy))
    | ok r =>
      obtain ⟨a', n⟩ := r
      have hk : newKey ≠ 0 := hall _ (List.mem_cons_self ..)
      have := migrated_never_again oldKey g ga cfw rest a' (by rw [(transfer_link ht).2]; exact hk)
      simp only
      omega

open Mfi.Gen.TxL in
/-- the source, regenerated: the migration link is written only by `initialize` (to the default key) and by the
    two transfer handlers; whole position arrays are assigned only by the two transfer handlers (one copy into the
    new account, one zeroing of the old) -/
theorem migration_writers :
    migratedToWrites = [(.fn_initialize, false), (.fn_transfer_to_new_account, true), (.fn_transfer_to_new_account_pda, true)] ∧
    lendingArrayWrites = [(.fn_transfer_to_new_account, false), (.fn_transfer_to_new_account, true),
                          (.fn_transfer_to_new_account_pda, false), (.fn_transfer_to_new_account_pda, true)] := by decide

open Mfi.Gen.Skel in
/-- both transfer handlers, in source order and unconditionally: flash-loan / receivership / already-migrated
    checks, then copy array + flags, link, zero the old array, disable the old account -/
theorem transfer_shape :
    ∀ h ∈ [(transfer_to_new_account, transfer_to_new_account_cond), (transfer_to_new_account_pda, transfer_to_new_account_pda_cond)],
      h.1 = [.feeAtaCheck, .acctFlag .inFlashloan, .acctFlag .inReceivership, .migratedCheck, .moveArray, .copyFlags,
             .setMigratedTo, .zeroArray, .setFlag .disabled] ∧ h.2.all (· == 0) = true := by decide

end transfer

def demo : List Slot :=
  [⟨true, 9, 0, 5, 0, 0, 0⟩, ⟨true, 4, 3, 0, 7, 0, 0⟩] ++ List.replicate 14 emptySlot
example : (findOrCreate demo 6 0 100).isOk = true := by decide
def demoAcct : Transfer.MAcct :=
  { group := 7, authority := 11, slots := demo, disabled := false, flash := false, recv := false, frozen := false, otherFlags := 0,
    emisDest := 0, migratedFrom := 0, migratedTo := 0, lastUpdate := 5 }
example : (Transfer.transfer demoAcct 100 7 1 3 false 11 200 12 3 99).isOk = true := by decide

/-! ### the numbers of the property text -/

/-- "at most 8 integration positions and 16 positions overall" -/
theorem position_limits : Mfi.Gen.MAX_INTEGRATION_POSITIONS = 8 ∧ Mfi.Gen.MAX_LENDING_ACCOUNT_BALANCES = 16 := by decide

section whole_instructions
open Mfi Mfi.World Mfi.Gen Mfi.Gen.Acc

/-- An account flagged ACCOUNT_DISABLED (bankrupt or migrated) gets none of the five
    user instructions through, whoever signs and whatever the bank's state -/
theorem world_disabled_account_is_inert (c : Ctx) (hd : flag c ACCOUNT_DISABLED = true) :
    (∀ amt up, (World.deposit c amt up).isOk = false) ∧ (∀ amt, (World.borrow c amt).isOk = false) ∧
    (∀ amt all, (World.withdraw c amt all).isOk = false) ∧ (∀ amt all, (World.repay c amt all).isOk = false) ∧
    (World.closeBalance c).isOk = false := by
  refine ⟨?_, ?_, ?_, ?_, ?_⟩
  · intro amt up
    exact Res.isOk_false fun o hr => by have := (deposit_ok hr).flags.1; simp [hd] at this
  · intro amt
    exact Res.isOk_false fun o hr => by have := (borrow_ok hr).flags.1; simp [hd] at this
  · intro amt all
    exact Res.isOk_false fun o hr => by have := (withdraw_ok hr).flags; simp [hd] at this
  · intro amt all
    exact Res.isOk_false fun o hr => by have := (repay_ok hr).flags; simp [hd] at this
  · exact Res.isOk_false fun o hr => by have := (close_ok hr).flags; simp [hd] at this

/-- every instruction writes the touched slot and then SORTS: the slot array it leaves is `sort_balances` of an array -/
theorem world_leaves_sorted_array (c : Ctx) :
    (∀ amt o, World.borrow c amt = .ok o → ∃ l, o.slots = Account.sortBalances l) ∧
    (∀ amt all o, World.withdraw c amt all = .ok o → ∃ l, o.slots = Account.sortBalances l) ∧
    (∀ amt all o, World.repay c amt all = .ok o → ∃ l, o.slots = Account.sortBalances l) ∧
    (∀ o, World.closeBalance c = .ok o → ∃ l, o.slots = Account.sortBalances l) := by
  refine ⟨?_, ?_, ?_, ?_⟩
  · intro amt o h
    obtain ⟨b, slots, i, x, x', _, _, _, _, _, _, hs⟩ := (borrow_ok h).core
    exact ⟨_, hs⟩
  · intro amt all o h
    obtain ⟨_, _, i, s, x', _, _, _, _, _, _, _, hs⟩ := (withdraw_ok h).core
    exact ⟨_, hs⟩
  · intro amt all o h
    obtain ⟨_, i, s, _, x', _, _, _, _, _, _, hs⟩ := (repay_ok h).core
    exact ⟨_, hs⟩
  · intro o h
    obtain ⟨_, i, s, x', _, _, _, hs⟩ := (close_ok h).core
    exact ⟨_, hs⟩

/-- Nor can a disabled account start a flash loan, nor be closed (`world_close_account_spec`): `lending_account_start_flashloan`
    as a whole instruction, wherever it sits in whatever transaction -/
theorem world_disabled_account_starts_no_flash_loan (c : Ctx) (hd : flag c ACCOUNT_DISABLED = true) (cur endIdx : Nat) (endIx : Option Bool) :
    (World.startFlashloan c cur endIdx endIx).isOk = false := by
  exact Res.isOk_false fun f hr => Bool.noConfusion (hd.symm.trans (startFlashloan_ok hr).2.2.2.1)

/-- In every COMMITTED transaction of the world machine each deposit, borrow, withdrawal and
    repayment ran on an account that was NOT disabled on the state it found — inside a flash-loan or receivership bracket or not:
    a bankrupt or migrated account takes part in nothing -/
theorem world_tx_disabled_account_is_inert {w w' : WState} {tx : List TOp} (h : w.runTx tx = some w') (i : Nat) :
    (∀ ai bi signer amount upTo, tx[i]? = some (.ix (.deposit ai bi signer amount upTo)) →
      ∃ (wi : WState) (a : AcctV), w.before tx i = some wi ∧ wi.accts[ai]? = some a ∧ hasFlag a.flags ACCOUNT_DISABLED = false) ∧
    (∀ ai bi signer amount, tx[i]? = some (.ix (.borrow ai bi signer amount)) →
      ∃ (wi : WState) (a : AcctV), w.before tx i = some wi ∧ wi.accts[ai]? = some a ∧ hasFlag a.flags ACCOUNT_DISABLED = false) ∧
    (∀ ai bi signer amount all vault, tx[i]? = some (.ix (.withdraw ai bi signer amount all vault)) →
      ∃ (wi : WState) (a : AcctV), w.before tx i = some wi ∧ wi.accts[ai]? = some a ∧ hasFlag a.flags ACCOUNT_DISABLED = false) ∧
    (∀ ai bi signer amount all, tx[i]? = some (.ix (.repay ai bi signer amount all)) →
      ∃ (wi : WState) (a : AcctV), w.before tx i = some wi ∧ wi.accts[ai]? = some a ∧ hasFlag a.flags ACCOUNT_DISABLED = false) := by
  refine ⟨?_, ?_, ?_, ?_⟩
  · intro ai bi signer amount upTo hi
    obtain ⟨wi, a, b, o, hbef, ha, _, ho⟩ := tx_user_ran h hi (.deposit ..)
    exact ⟨wi, a, hbef, ha, (deposit_ok ho).flags.1⟩
  · intro ai bi signer amount hi
    obtain ⟨wi, a, b, o, hbef, ha, _, ho⟩ := tx_user_ran h hi (.borrow ..)
    exact ⟨wi, a, hbef, ha, (borrow_ok ho).flags.1⟩
  · intro ai bi signer amount all vault hi
    obtain ⟨wi, a, b, o, hbef, ha, _, ho⟩ := tx_user_ran h hi (.withdraw ..)
    exact ⟨wi, a, hbef, ha, (withdraw_ok ho).flags⟩
  · intro ai bi signer amount all hi
    obtain ⟨wi, a, b, o, hbef, ha, _, ho⟩ := tx_user_ran h hi (.repay ..)
    exact ⟨wi, a, hbef, ha, (repay_ok ho).flags⟩

theorem allNone_true : ∀ (s : List Account.Slot), Account.allNone s = .ok true →
    ∀ x ∈ s, x.a < EMPTY_BALANCE_THRESHOLD ∧ x.l < EMPTY_BALANCE_THRESHOLD := by
  intro s
  induction s with
  | nil => intro _ x hx; cases hx
  | cons y rest ih =>
    intro h x hx
    unfold Account.allNone at h
    obtain ⟨b, hb, h⟩ := Res.bind_ok h
    cases b with
    | false => simp at h
    | true =>
      simp only [Bool.not_true, Bool.false_eq_true, if_false] at h
      rcases List.mem_cons.mp hx with rfl | hx
      · unfold Account.sideIsNone at hb
        obtain ⟨_, hb⟩ := Res.of_ite_error hb
        injection hb with hb
        simp only [Bool.and_eq_true, decide_eq_true_eq] at hb
        exact ⟨hb.2, hb.1⟩
      · exact ih h x hx

/-- `marginfi_account_close` (the whole instruction) goes through only signed by the account's
    AUTHORITY (no group-admin and no receivership path), on an account that is not frozen, not disabled, neither in a flash loan
    nor in receivership, and whose every slot — active or not — holds less than one share on both sides -/
theorem world_close_account_spec {c : Ctx} (h : World.closeAccount c = .ok ()) :
    c.a.authority = c.signer ∧ flag c ACCOUNT_FROZEN = false ∧ flag c ACCOUNT_DISABLED = false ∧
    flag c ACCOUNT_IN_FLASHLOAN = false ∧ flag c ACCOUNT_IN_RECEIVERSHIP = false ∧
    ∀ x ∈ c.a.slots, x.a < EMPTY_BALANCE_THRESHOLD ∧ x.l < EMPTY_BALANCE_THRESHOLD := by
  obtain ⟨ha, hfz, hcan⟩ := closeAccount_ok h
  obtain ⟨hd, hfl, hr, hall⟩ := close_ok_iff _ _ _ _ true hcan rfl
  exact ⟨ha, hfz, hd, hfl, hr, allNone_true _ hall⟩

/-- Each of the five whole instructions, when it succeeds on an account whose slot
    array has 16 slots, at most one active slot per bank and non-increasing bank keys, leaves such an array — whether it
    opened a slot (`find_or_create`), rewrote one, or closed one, and re-sorted. -/
theorem world_instruction_keeps_shape (c : Ctx) (hs : Shape c.a.slots) :
    (∀ amt up o, World.deposit c amt up = .ok o → Shape o.slots) ∧
    (∀ amt o, World.borrow c amt = .ok o → Shape o.slots) ∧
    (∀ amt all o, World.withdraw c amt all = .ok o → Shape o.slots) ∧
    (∀ amt all o, World.repay c amt all = .ok o → Shape o.slots) ∧
    (∀ o, World.closeBalance c = .ok o → Shape o.slots) :=
  ⟨fun _ _ _ h => deposit_shape h hs, fun _ _ h => borrow_shape h hs, fun _ _ _ h => withdraw_shape h hs,
   fun _ _ _ h => repay_shape h hs, fun _ h => close_shape h hs⟩

/-- a classic liquidation keeps the shape of the liquidator's AND the liquidatee's slot array; a bankruptcy settlement keeps
    the shape of the bankrupt account's -/
theorem world_liquidation_and_bankruptcy_keep_shape :
    (∀ (c : LiqCtx) amount o, World.liquidate c amount = .ok o → Shape c.lq.slots → Shape c.le.slots → Shape o.lqSlots ∧ Shape o.leSlots) ∧
    (∀ (c : Ctx) available o, World.bankruptcy c available = .ok o → Shape c.a.slots → Shape o.slots) :=
  ⟨fun _ _ _ h hq he => liquidate_shape h hq he, fun _ _ _ h hs => bankruptcy_shape h hs⟩

/-- Over EVERY history of whole instructions (the five user instructions, classic liquidations,
    bankruptcy settlements) by any signers on any accounts and banks, every
    account keeps 16 slots, at most one position per bank, and its positions ordered by bank key as the risk engine expects. -/
theorem world_shape_history (w : WState) (ops : List WOp) (h : WShape w) : WShape (w.run ops) := run_shape ops w h

/-- In the world state machine an accepted `transfer_to_new_account` hands the WHOLE slot array to the
    new account (under the key asked for) and leaves the old account with sixteen empty slots; `world_shape_history` and
    `world_ledger_history` (C02) therefore run through transfers too: the world gains an account, no position is duplicated or
    lost, every array keeps its shape -/
theorem world_transfer_spec {g : GroupV} {a o n : AcctV} {signer newKey newAuth : Nat} {ok : Bool}
    (h : transferIx g a signer newKey newAuth ok = .ok (o, n)) :
    o.slots = Transfer.zeroedSlots ∧ n.slots = a.slots ∧ o.key = a.key ∧ n.key = newKey ∧ Shape o.slots :=
  ⟨(transferIx_ok h).1, (transferIx_ok h).2.1, (transferIx_ok h).2.2.1, (transferIx_ok h).2.2.2, by rw [(transferIx_ok h).1]; exact zeroed_shape⟩

/-- The same over every sequence of TRANSACTIONS of the world state machine (whole instructions,
    flash-loan and liquidation brackets, executed atomically): whatever happens inside a bracket, every account keeps 16 slots, at
    most one position per bank, sorted -/
theorem world_shape_over_transactions (w : WState) (txs : List (List TOp)) (h : WShape w) : WShape (w.runTxs txs) :=
  runTxs_keeps (stepIn_keeps step_shape setAcct_shape) txs w h

/-- a fresh account (16 empty slots) has the shape -/
theorem empty_account_shape : Shape (List.replicate 16 Account.emptySlot) := zeroed_shape

end whole_instructions

end Mfi.Props.C16
