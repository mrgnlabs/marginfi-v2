/-
  C06 — Interest accrual conserves value, is monotone, and is always applied first.
  Theorems about Mfi/Model/Bank.lean `accrueInterest` and Mfi/Model/Interest.lean, diffed against
  the real Bank::accrue_interest / calc_interest_rate_accrual_state_changes by the `bank` and `curve`
  families. The "applied first" part is a theorem over the generated handler skeletons (Mfi/Gen/Skeletons).
-/
import Mfi.Lemmas.FreeL
import Mfi.Lemmas.SkelL
import Mfi.Lemmas.AccrualL
import Mfi.Lemmas.WorldTxL

namespace Mfi.Props.C06
open Mfi Mfi.Fx Mfi.Bank Mfi.Interest Mfi.Gen

theorem YEAR_pos : 0 < SECONDS_PER_YEAR := by decide

/-- Accruing at the time of the last accrual is a no-op. -/
theorem accrue_idempotent (b : Bank) (ir : IrCalc) : accrueInterest b ir b.lastUpdate = .ok b := by
  unfold accrueInterest
  simp

/-- value of `calc_accrued_interest_payment_per_period` on success with a non-negative rate:
    the new share value is ⌊v·(1 + ⌊apr·dt/year⌋)⌋ ≥ v -/
theorem accrued_ge {apr dt v v' : Int} (hapr : 0 ≤ apr) (hdt : 0 ≤ dt) (hv : 0 ≤ v)
    (h : accruedPerPeriod apr dt v = some v') : v ≤ v' := by
  rw [Mfi.AccrualL.accrued_closed hapr hdt h]
  exact Int.le_add_of_nonneg_right (mulfloor_nonneg hv (Int.ediv_nonneg (Int.mul_nonneg hapr hdt) (by decide)))

theorem payment_nonneg {apr dt v p : Int} (hapr : 0 ≤ apr) (hdt : 0 ≤ dt) (hv : 0 ≤ v)
    (h : paymentForPeriod apr dt v = some p) : 0 ≤ p := by
  rw [Mfi.AccrualL.payment_closed hapr hdt hv h]
  exact Int.ediv_nonneg (Int.mul_nonneg (mulfloor_nonneg hv hapr) hdt) (by decide)

theorem payment_zero_rate (dt v : Int) : paymentForPeriod 0 dt v = some 0 := by simp [paymentForPeriod]

/-- what a successful `calc_interest_rate_accrual_state_changes` guarantees -/
theorem state_changes_spec {dt ta tl asv lsv : Int} {c : IrCalc} {ch : StateChanges}
    (h : accrualStateChanges dt ta tl c asv lsv = .ok ch)
    (hdt : 0 ≤ dt) (htl : 0 ≤ tl) (hasv : 0 ≤ asv) (hlsv : 0 ≤ lsv) :
    asv ≤ ch.newAsv ∧ lsv ≤ ch.newLsv ∧ 0 ≤ ch.insuranceFees ∧ 0 ≤ ch.groupFees ∧ 0 ≤ ch.protocolFees ∧
    (c.addProgramFees = false → ch.protocolFees = 0) := by
  obtain ⟨ur, r, _, hr, hna, hnl, hins, hgrp, hprot⟩ := Mfi.AccrualL.stateChanges_ok h
  obtain ⟨_, _, _, _, _, _, _, _, _, _, _, _, _, hpf, l0, b0, g0, i0, p0⟩ := Mfi.Props.C18.calc_spec hr
  refine ⟨accrued_ge l0 hdt hasv hna, accrued_ge b0 hdt hlsv hnl, payment_nonneg i0 hdt htl hins,
    payment_nonneg g0 hdt htl hgrp, payment_nonneg p0 hdt htl hprot, ?_⟩
  intro hoff
  simp only [hoff, Bool.false_eq_true, ↓reduceIte, calcFeeRate] at hpf
  rw [← Res.pure_ok hpf, payment_zero_rate] at hprot
  exact (Option.some.inj hprot).symm

theorem map_ok {α β : Type} {r : Res α} {f : α → β} {y : β} (h : r.map f = .ok y) : ∃ a, r = .ok a ∧ f a = y :=
  Res.map_ok h

theorem bumpFee_spec {cur add r : Int} (h : bumpFee cur add = .ok r) (h0 : 0 ≤ add) : r = cur + add := by
  rw [bumpFee_ok h]
  split <;> omega

theorem applyFees_spec {b b' : Bank} {ch : StateChanges} (h : applyFees b ch = .ok b')
    (hi : 0 ≤ ch.insuranceFees) (hg : 0 ≤ ch.groupFees) (hp : 0 ≤ ch.protocolFees) :
    b' = { b with feeG := b.feeG + ch.groupFees, feeI := b.feeI + ch.insuranceFees,
                  feeP := b.feeP + ch.protocolFees } := by
  rw [applyFees_ok h]
  have e : ∀ x : Int, 0 ≤ x → (if x > 0 then x else 0) = x := by intro x hx; split <;> omega
  rw [e _ hi, e _ hg, e _ hp]

/-- Invariants the accrual needs from the bank (established by C02 / C07): non-negative totals and
    share values. -/
def BankOk (b : Bank) : Prop := 0 ≤ b.asv ∧ 0 ≤ b.lsv ∧ 0 ≤ b.sa ∧ 0 ≤ b.sl

/-- Everything a successful `accrue_interest` does. -/
theorem accrue_spec {b b' : Bank} {ir : IrCalc} {now : Int} (h : accrueInterest b ir now = .ok b') (hb : BankOk b) :
    -- monotone share values, shares untouched
    b.asv ≤ b'.asv ∧ b.lsv ≤ b'.lsv ∧ b'.sa = b.sa ∧ b'.sl = b.sl ∧
    -- fees never negative
    b.feeI ≤ b'.feeI ∧ b.feeG ≤ b'.feeG ∧ b.feeP ≤ b'.feeP ∧
    -- program fees are zero when disabled for the group
    (ir.addProgramFees = false → b'.feeP = b.feeP) ∧
    -- interest is brought up to `now`
    (b'.lastUpdate = now) ∧
    -- limits / flags / tag untouched
    b'.depositLimit = b.depositLimit ∧ b'.borrowLimit = b.borrowLimit ∧ b'.flags = b.flags := by
  obtain ⟨hasv, hlsv, hsa, hsl⟩ := hb
  obtain ⟨hnow, hfr⟩ := accrue_frame h
  have mono : b.asv ≤ b'.asv ∧ b.lsv ≤ b'.lsv ∧ b.feeI ≤ b'.feeI ∧ b.feeG ≤ b'.feeG ∧ b.feeP ≤ b'.feeP ∧
      (ir.addProgramFees = false → b'.feeP = b.feeP) := by
    rcases accrue_cases h with ⟨_, rfl⟩ | ⟨hlt, ta, tl, hta, htl, ⟨_, rfl⟩ | ⟨_, _, ch, acc, hch, hf⟩⟩
    · exact ⟨le_refl _, le_refl _, le_refl _, le_refl _, le_refl _, fun _ => rfl⟩
    · exact ⟨le_refl _, le_refl _, le_refl _, le_refl _, le_refl _, fun _ => rfl⟩
    · obtain ⟨m1, m2, f1, f2, f3, f4⟩ :=
        state_changes_spec hch (by omega) (mul?_nonneg hsl hlsv (math_ok htl)) hasv hlsv
      rw [applyFees_spec hf f1 f2 f3]
      exact ⟨m1, m2, Int.le_add_of_nonneg_right f1, Int.le_add_of_nonneg_right f2, Int.le_add_of_nonneg_right f3,
        fun ho => by dsimp only; rw [f4 ho, Int.add_zero]⟩
  refine ⟨mono.1, mono.2.1, ?_, ?_, mono.2.2.1, mono.2.2.2.1, mono.2.2.2.2.1, mono.2.2.2.2.2, hnow, ?_, ?_, ?_⟩ <;>
    rw [hfr]

theorem accrue_monotone {b b' : Bank} {ir : IrCalc} {now : Int} (h : accrueInterest b ir now = .ok b') (hb : BankOk b) :
    b.asv ≤ b'.asv ∧ b.lsv ≤ b'.lsv := ⟨(accrue_spec h hb).1, (accrue_spec h hb).2.1⟩

/-- the fee buckets never fall, and the program's stays as it is when program fees are disabled for the group -/
theorem accrue_fees {b b' : Bank} {ir : IrCalc} {now : Int} (h : accrueInterest b ir now = .ok b') (hb : BankOk b) :
    b.feeI ≤ b'.feeI ∧ b.feeG ≤ b'.feeG ∧ b.feeP ≤ b'.feeP ∧ (ir.addProgramFees = false → b'.feeP = b.feeP) := by
  have := accrue_spec h hb
  exact ⟨this.2.2.2.2.1, this.2.2.2.2.2.1, this.2.2.2.2.2.2.1, this.2.2.2.2.2.2.2.1⟩

/-- After a successful accrual at `now`, accruing again at `now`
    changes nothing. -/
theorem accrue_twice {b b' : Bank} {ir : IrCalc} {now : Int} (h : accrueInterest b ir now = .ok b') (hb : BankOk b) :
    accrueInterest b' ir now = .ok b' := by
  rw [← (accrue_frame h).1]
  exact accrue_idempotent b' ir

/-- With no deposits or no debt (and the other total computable) only
    `last_update` moves. -/
theorem accrue_empty_side {b : Bank} {ir : IrCalc} {now ta tl : Int} (hnow : b.lastUpdate < now)
    (hrange : now - b.lastUpdate ≤ 9223372036854775807)
    (hta : assetAmount b b.sa = .ok ta) (htl : liabAmount b b.sl = .ok tl) (h : ta = 0 ∨ tl = 0) :
    accrueInterest b ir now = .ok { b with lastUpdate := now } := by
  unfold accrueInterest
  dsimp only
  have h1 : ¬ (now - b.lastUpdate < 0 ∨ now - b.lastUpdate > 9223372036854775807) := by omega
  have h2 : ¬ (now - b.lastUpdate = 0) := by omega
  simp only [h1, h2, ↓reduceIte, hta, htl, bind, Except.bind, h]

/-! ### instruction level: nobody transacts against stale share values

`Mfi/Model/Ix.lean` models the four user instructions (handler glue around accrual, wrapper operation, token amount);
the `ixf` family diffs it bit for bit against the REAL instructions through dispatch. -/

section ix
open Mfi.Ix

theorem wdall_sv {b b' : Bank} {x x' : Balance} {now amt : Int} (h : withdrawAll b x now = .ok (b', x', amt)) :
    b'.asv = b.asv ∧ b'.lsv = b.lsv := by
  obtain ⟨⟨_, _, rfl⟩, _⟩ := withdrawAll_closed h
  exact ⟨rfl, rfl⟩

theorem repall_sv {b b' : Bank} {x x' : Balance} {now amt : Int} (h : repayAll b x now = .ok (b', x', amt)) :
    b'.asv = b.asv ∧ b'.lsv = b.lsv := by
  obtain ⟨⟨_, _, rfl⟩, _⟩ := repayAll_closed h
  exact ⟨rfl, rfl⟩

/-- what "applied first" buys: the bank an instruction leaves behind carries exactly the share values of an accrual
    of the pre-state to the current time -/
def AtAccrued (e : Env) (b b' : Bank) : Prop :=
  ∃ b1, accrueInterest b e.ir e.now = .ok b1 ∧ b'.asv = b1.asv ∧ b'.lsv = b1.lsv

theorem ix_deposit_at_accrued {e : Env} {b b' : Bank} {bal x' : Option Balance} {amount t : Int} {up : Bool}
    (h : Ix.deposit e b bal amount up = .ok (b', x', t)) : AtAccrued e b b' := by
  unfold Ix.deposit at h
  obtain ⟨b1, hb1, h⟩ := Res.bind_ok h
  obtain ⟨amt, _, h⟩ := Res.bind_ok h
  refine ⟨b1, hb1, ?_⟩
  split at h
  · cases h; exact ⟨rfl, rfl⟩
  · obtain ⟨x2, hi, _⟩ := Mfi.World.depositCore_spec h
    exact Mfi.FreeL.inc_sv hi

theorem ix_withdraw_at_accrued {e : Env} {b b' : Bank} {bal x' : Option Balance} {amount t : Int} {all : Bool}
    (h : Ix.withdraw e b bal amount all = .ok (b', x', t)) : AtAccrued e b b' := by
  unfold Ix.withdraw at h
  obtain ⟨b1, hb1, h⟩ := Res.bind_ok h
  refine ⟨b1, hb1, ?_⟩
  cases bal with
  | none => cases h
  | some x =>
    dsimp only at h
    split at h
    · obtain ⟨⟨b2, x2, amt⟩, hw, h⟩ := Res.bind_ok h
      cases h
      exact wdall_sv hw
    · obtain ⟨_, _, h⟩ := Res.bind_ok h
      obtain ⟨⟨b2, x2⟩, hd, h⟩ := Res.bind_ok h
      cases h
      exact Mfi.FreeL.dec_sv hd

theorem ix_repay_at_accrued {e : Env} {b b' : Bank} {bal x' : Option Balance} {amount t : Int} {all : Bool}
    (h : Ix.repay e b bal amount all = .ok (b', x', t)) : AtAccrued e b b' := by
  unfold Ix.repay at h
  obtain ⟨b1, hb1, h⟩ := Res.bind_ok h
  refine ⟨b1, hb1, ?_⟩
  cases bal with
  | none => cases h
  | some x =>
    dsimp only at h
    split at h
    · obtain ⟨⟨b2, x2, amt⟩, hw, h⟩ := Res.bind_ok h
      dsimp only at h
      obtain ⟨_, _, h⟩ := Res.bind_ok h
      cases h
      exact repall_sv hw
    · obtain ⟨⟨b2, x2⟩, hd, h⟩ := Res.bind_ok h
      dsimp only at h
      obtain ⟨_, _, h⟩ := Res.bind_ok h
      cases h
      exact Mfi.FreeL.inc_sv hd

theorem ix_borrow_at_accrued {e : Env} {b b' : Bank} {bal x' : Option Balance} {amount t : Int}
    (h : Ix.borrow e b bal amount = .ok (b', x', t)) : AtAccrued e b b' := by
  unfold Ix.borrow at h
  obtain ⟨b1, hb1, h⟩ := Res.bind_ok h
  refine ⟨b1, hb1, ?_⟩
  dsimp only at h
  obtain ⟨pre, _, h⟩ := Res.bind_ok h
  by_cases ho : e.origFee ≠ 0
  · rw [if_pos ho] at h
    obtain ⟨fee, _, h⟩ := Res.bind_ok h
    obtain ⟨_, _, h⟩ := Res.bind_ok h
    obtain ⟨tot, _, h⟩ := Res.bind_ok h
    obtain ⟨⟨b2, x2⟩, hd, h⟩ := Res.bind_ok h
    dsimp only at h
    have hs := Mfi.FreeL.dec_sv hd
    -- the fee booking writes `feeG` / `feeP` only (`injection`: `cases h` would substitute the large `x'` and `t` as well)
    by_cases hf : fee = 0
    · rw [if_pos hf] at h; injection h with h; injection h with hb _; subst hb; exact hs
    · rw [if_neg hf] at h
      by_cases hp : e.progFeeRate ≠ 0
      · rw [if_pos hp] at h
        obtain ⟨pf, _, h⟩ := Res.bind_ok h
        injection h with h; injection h with hb _; subst hb; exact hs
      · rw [if_neg hp] at h; injection h with h; injection h with hb _; subst hb; exact hs
  · rw [if_neg ho] at h
    obtain ⟨⟨b2, x2⟩, hd, h⟩ := Res.bind_ok h
    injection h with h; injection h with hb _; subst hb
    exact Mfi.FreeL.dec_sv hd

end ix

open Mfi.Gen.Skel in
/-- In the handlers of deposit, withdraw, borrow, repay, close-balance and
    bankruptcy settlement the bank's `accrue_interest` call occurs, and occurs before the first
    share-moving call (wrapper operation, loss socialisation, capacity query). -/
theorem accrue_first :
    ∀ h ∈ [deposit, withdraw, borrow, repay, close_balance, handle_bankruptcy],
      occursBefore h (isAccrue .bank) isShareMove = true := by decide

open Mfi.Gen.Skel in
/-- liquidation accrues BOTH banks before touching any position -/
theorem accrue_first_liquidate :
    occursBefore liquidate (isAccrue .assetBank) isShareMove = true ∧
    occursBefore liquidate (isAccrue .liabBank) isShareMove = true := by decide

open Mfi.Gen.Skel in
/-- On EVERY path: each accrual sits at conditional depth 0 of its handler (never behind a flag, a kind of bank
    or an argument) -/
theorem accrue_unconditional :
    (∀ h ∈ [(deposit, deposit_cond), (withdraw, withdraw_cond), (borrow, borrow_cond), (repay, repay_cond),
            (close_balance, close_balance_cond), (handle_bankruptcy, handle_bankruptcy_cond)],
      unconditionally h.1 h.2 (isAccrue .bank) = true) ∧
    unconditionally liquidate liquidate_cond (isAccrue .assetBank) = true ∧
    unconditionally liquidate liquidate_cond (isAccrue .liabBank) = true := by decide

open Mfi.Gen.Skel in
/-- Known nuance kept visible: in `handle_bankruptcy` the eligibility test (`check_account_bankrupt`)
    runs on stored share values BEFORE the accrual; the debt written off is computed after it. -/
theorem bankruptcy_eligibility_before_accrual :
    occursBefore handle_bankruptcy (· == .checkBankrupt) (isAccrue .bank) = true := by decide

/-- a balance closure judges "dust" at the accrued share values, and leaves them behind -/
theorem ix_close_at_accrued {e : Ix.Env} {b b' : Bank} {bal x' : Option Balance} {t : Int}
    (h : Ix.closeBalance e b bal = .ok (b', x', t)) :
    ∃ b1 x, accrueInterest b e.ir e.now = .ok b1 ∧ bal = some x ∧
      ∃ r, closeBalanceOp b1 x e.now = .ok r ∧ b' = r.1 ∧ x' = some r.2 := by
  unfold Ix.closeBalance at h
  obtain ⟨b1, hb1, h⟩ := Res.bind_ok h
  cases bal with
  | none => simp [merr] at h
  | some x =>
    simp only at h
    obtain ⟨r, hr, h⟩ := Res.bind_ok h
    injection h with h; injection h with hb h; injection h with hx _
    exact ⟨b1, x, hb1, rfl, r, hr, hb.symm, hx.symm⟩

/-- Bankruptcy settles at the accrued share values: whatever `lending_pool_handle_bankruptcy` books — the bad
    debt it sizes, the insurance it draws, the loss it socialises, the debt it clears — is the settlement of the bank
    ACCRUED to the current time; no part of it is computed from the share values of the last update. -/
theorem ix_bankruptcy_at_accrued {ir : Interest.IrCalc} {now avail : Int} {b0 : Bank} {bal : Balance} {o : BankruptcyOut}
    (h : Ix.bankruptcy ir now b0 bal avail = .ok o) :
    ∃ b1, accrueInterest b0 ir now = .ok b1 ∧ settleBankruptcy b1 bal avail now = .ok o ∧
      liabAmount b1 bal.l = .ok o.badDebt := by
  unfold Ix.bankruptcy at h
  obtain ⟨b1, hb1, h⟩ := Res.bind_ok h
  exact ⟨b1, hb1, h, (settleBankruptcy_ok h).1⟩

/-- "Over any accrual the increase in total debt covers the increase in total deposits plus the
    insurance, group and program fees booked, within the fixed-point allowance": with `sa`/`sl` the share totals and
    `asv`/`lsv` the share values before, what the accrual credits to depositors plus what it books into the three fee
    buckets is LESS than what it adds to the debt plus (per-period lending rate + one ulp of rate on the total debt + one
    ulp of share value per debt share), in units of 2^-96 token. Proved in Mfi/Lemmas/AccrualL.lean through every floor
    of `calc_interest_rate_accrual_state_changes`. (The other direction — nothing is charged that is not credited or
    booked, beyond rounding — is monitored with exact big integers after every real instruction; a shortfall on that
    side costs borrowers rounding dust and cannot take value from depositors.) -/
theorem accrual_conserves {dt sa sl asv lsv : Int} {c : IrCalc} {ch : StateChanges}
    (hsa : 0 ≤ sa) (hsl : 0 ≤ sl) (hasv : 0 ≤ asv) (hlsv : 0 ≤ lsv) (hdt : 0 ≤ dt)
    (hta : 0 < sa * asv / ONE) (htl : 0 < sl * lsv / ONE) (hfees : Mfi.AccrualL.FeesOk c)
    (hbase : ∀ r, calcInterestRate c (sl * lsv / ONE * ONE / (sa * asv / ONE)) = .ok r → 0 ≤ r.base)
    (h : accrualStateChanges dt (sa * asv / ONE) (sl * lsv / ONE) c asv lsv = .ok ch) :
    ∃ r, calcInterestRate c (sl * lsv / ONE * ONE / (sa * asv / ONE)) = .ok r ∧
      sa * (ch.newAsv - asv) + (ch.insuranceFees + ch.groupFees + ch.protocolFees) * ONE <
        sl * (ch.newLsv - lsv) + r.lending * dt / Mfi.AccrualL.YEAR + sl * lsv / ONE + sl :=
  Mfi.AccrualL.accrual_conserves hsa hsl hasv hlsv hdt hta htl hfees hbase h

/-- the three fee rates of an accrual and the base rate together never exceed the borrowing rate (closed forms in AccrualL) -/
theorem fees_within_spread {c : IrCalc} {ur : Int} {r : Rates} (h : calcInterestRate c ur = .ok r) (hb : 0 ≤ r.base) :
    r.groupFee + r.insuranceFee + r.protocolFee + r.base ≤ r.borrowing :=
  Mfi.AccrualL.fees_le_spread h hb

open Mfi.Gen.Skel in
/-- The accrual clock only moves by accruing. A bank's `last_update` is what `accrue_interest` measures the elapsed time
    from, so whatever stamps it without accruing makes the interest of that period vanish. Besides `accrue_interest` itself the
    only writers are `update_bank_cache` (which stamps the clock when the bank has both deposits and debt) and direct
    assignments; the translator lists every such site in the whole program (`clockMovers`, regenerated on every run). Every
    site is preceded, in the same function, by a call of `accrue_interest`, except the six venue handlers, whose banks carry a
    venue asset tag and can never be borrowed from (C17 `standard_instructions_only_on_own_banks`): with no debt
    `update_bank_cache` returns before the stamp. A new site without accrual, or an existing one that loses it, breaks this. -/
theorem clock_moves_only_after_accrual :
    clockMovers.all (fun e => e.2 || ["kamino_deposit", "kamino_withdraw", "drift_deposit", "drift_withdraw",
                                      "solend_deposit", "solend_withdraw"].contains e.1) = true
    ∧ clockMovers.length = 15 := by decide

section whole_instructions
open Mfi Mfi.World Mfi.Gen Mfi.Gen.Acc Mfi.Bank

/-- the books an instruction leaves carry exactly the share values of an accrual of the pre-state to the current time -/
def WorldAtAccrued (c : Ctx) (o : Out) : Prop :=
  ∃ b1, accrueInterest c.b.books c.b.ir c.now = .ok b1 ∧ o.books.asv = b1.asv ∧ o.books.lsv = b1.lsv

theorem borrowCore_sv {e : Ix.Env} {b b' : Bank} {x x' : Balance} {amount t : Int}
    (h : borrowCore e b x amount = .ok (b', x', t)) : b'.asv = b.asv ∧ b'.lsv = b.lsv := by
  obtain ⟨_, b2, _, _, _, _, hd, rfl, _⟩ := borrowCore_spec h
  exact (Mfi.FreeL.dec_sv hd :)

/-- Each of the five whole instructions, whenever it succeeds, has accrued
    the bank to the current time first, and every share it books, every token it moves and the health check at its end
    are computed at those accrued share values -/
theorem world_instructions_run_at_accrued_values (c : Ctx) :
    (∀ amt up o, World.deposit c amt up = .ok o → WorldAtAccrued c o) ∧
    (∀ amt o, World.borrow c amt = .ok o → WorldAtAccrued c o) ∧
    (∀ amt all o, World.withdraw c amt all = .ok o → WorldAtAccrued c o) ∧
    (∀ amt all o, World.repay c amt all = .ok o → WorldAtAccrued c o) ∧
    (∀ o, World.closeBalance c = .ok o → ∃ b1, accrueInterest c.b.books c.b.ir c.now = .ok b1) := by
  refine ⟨?_, ?_, ?_, ?_, ?_⟩
  · intro amt up o h
    obtain ⟨b, a, hb, _, hcore⟩ := (deposit_ok h).core
    refine ⟨b, hb, ?_⟩
    split at hcore
    · obtain ⟨_, hbk, _⟩ := hcore; rw [hbk]; exact ⟨rfl, rfl⟩
    · obtain ⟨slots, i, s, x', _, _, hd, _⟩ := hcore
      obtain ⟨x2, hr, _⟩ := depositCore_spec hd
      exact Mfi.FreeL.inc_sv hr
  · intro amt o h
    obtain ⟨b, slots, i, x, x', hb, _, _, _, _, hcore, _⟩ := (borrow_ok h).core
    exact ⟨b, hb, borrowCore_sv hcore⟩
  · intro amt all o h
    obtain ⟨price, b, i, s, x', pre, _, hb, _, hcore, _⟩ := (withdraw_ok h).core
    refine ⟨b, hb, ?_⟩
    rcases withdrawCore_spec hcore with ⟨_, hw⟩ | ⟨_, _, hd⟩
    · exact wdall_sv hw
    · exact Mfi.FreeL.dec_sv hd
  · intro amt all o h
    obtain ⟨b, i, s, b', x', post, hb, _, hcore, _, hbooks, _⟩ := (repay_ok h).core
    refine ⟨b, hb, ?_⟩
    rw [hbooks]
    show b'.asv = b.asv ∧ b'.lsv = b.lsv
    rcases repayCore_spec hcore with ⟨_, hr⟩ | ⟨_, _, hd⟩
    · exact repall_sv hr
    · exact Mfi.FreeL.inc_sv hd
  · intro o h
    obtain ⟨b, i, s, x', hb, _⟩ := (close_ok h).core
    exact ⟨b, hb⟩

/-- The permissionless `lending_pool_accrue_bank_interest` is `accrue_interest` on a bank of the group
    passed and nothing else: anyone can bring any bank up to date at any time, and doing so changes the books exactly as the
    accrual inside any other instruction would (so the theorems about `accrue_interest` — monotone, conserving, idempotent at one
    timestamp — speak about the crank too) -/
theorem world_accrue_crank_spec {c : Ctx} {b : Bank} (h : World.accrueIx c = .ok b) :
    c.b.group = c.g.key ∧ accrueInterest c.b.books c.b.ir c.now = .ok b := accrueIx_spec.1 h

/-- And so in every COMMITTED transaction of the world machine: each deposit,
    borrow, withdrawal and repayment in it — wherever it sits, inside a flash-loan or receivership bracket or not — ran on a
    reached state with its bank accrued to the current time first, every share and token computed at those values -/
theorem world_tx_instructions_run_at_accrued_values {w w' : WState} {tx : List TOp} (h : w.runTx tx = some w') (i : Nat) :
    (∀ ai bi signer amount upTo, tx[i]? = some (.ix (.deposit ai bi signer amount upTo)) →
      ∃ (wi : WState) (a : AcctV) (b : WBank) (o : Out), w.before tx i = some wi ∧ wi.accts[ai]? = some a ∧ wi.banks[bi]? = some b ∧
        World.deposit (wi.ctx a b signer b.v.liquidityVault 0) amount upTo = .ok o ∧ WorldAtAccrued (wi.ctx a b signer b.v.liquidityVault 0) o) ∧
    (∀ ai bi signer amount, tx[i]? = some (.ix (.borrow ai bi signer amount)) →
      ∃ (wi : WState) (a : AcctV) (b : WBank) (o : Out), w.before tx i = some wi ∧ wi.accts[ai]? = some a ∧ wi.banks[bi]? = some b ∧
        World.borrow (wi.ctx a b signer b.v.liquidityVault 0) amount = .ok o ∧ WorldAtAccrued (wi.ctx a b signer b.v.liquidityVault 0) o) ∧
    (∀ ai bi signer amount all vault, tx[i]? = some (.ix (.withdraw ai bi signer amount all vault)) →
      ∃ (wi : WState) (a : AcctV) (b : WBank) (o : Out), w.before tx i = some wi ∧ wi.accts[ai]? = some a ∧ wi.banks[bi]? = some b ∧
        World.withdraw (wi.ctx a b signer b.v.liquidityVault vault) amount all = .ok o ∧ WorldAtAccrued (wi.ctx a b signer b.v.liquidityVault vault) o) ∧
    (∀ ai bi signer amount all, tx[i]? = some (.ix (.repay ai bi signer amount all)) →
      ∃ (wi : WState) (a : AcctV) (b : WBank) (o : Out), w.before tx i = some wi ∧ wi.accts[ai]? = some a ∧ wi.banks[bi]? = some b ∧
        World.repay (wi.ctx a b signer b.v.liquidityVault 0) amount all = .ok o ∧ WorldAtAccrued (wi.ctx a b signer b.v.liquidityVault 0) o) := by
  refine ⟨?_, ?_, ?_, ?_⟩
  · intro ai bi signer amount upTo hi
    obtain ⟨wi, a, b, o, hbef, ha, hb, ho⟩ := tx_user_ran h hi (.deposit ..)
    exact ⟨wi, a, b, o, hbef, ha, hb, ho, (world_instructions_run_at_accrued_values _).1 amount upTo o ho⟩
  · intro ai bi signer amount hi
    obtain ⟨wi, a, b, o, hbef, ha, hb, ho⟩ := tx_user_ran h hi (.borrow ..)
    exact ⟨wi, a, b, o, hbef, ha, hb, ho, (world_instructions_run_at_accrued_values _).2.1 amount o ho⟩
  · intro ai bi signer amount all vault hi
    obtain ⟨wi, a, b, o, hbef, ha, hb, ho⟩ := tx_user_ran h hi (.withdraw ..)
    exact ⟨wi, a, b, o, hbef, ha, hb, ho, (world_instructions_run_at_accrued_values _).2.2.1 amount all o ho⟩
  · intro ai bi signer amount all hi
    obtain ⟨wi, a, b, o, hbef, ha, hb, ho⟩ := tx_user_ran h hi (.repay ..)
    exact ⟨wi, a, b, o, hbef, ha, hb, ho, (world_instructions_run_at_accrued_values _).2.2.2.1 amount all o ho⟩

/-- The permissionless crank run again at the same time on the books it left — by anybody,
    any number of times — leaves them exactly as they are (accruing twice at the same time is a no-op, as a whole instruction) -/
theorem world_accrue_crank_twice_is_a_no_op {c : Ctx} {b : Bank} (h : World.accrueIx c = .ok b) (hb : BankOk c.b.books) :
    World.accrueIx { c with b := { c.b with books := b } } = .ok b :=
  accrueIx_spec.2 ⟨(accrueIx_spec.1 h).1, accrue_twice (accrueIx_spec.1 h).2 hb⟩

end whole_instructions

end Mfi.Props.C06
