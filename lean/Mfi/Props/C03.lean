/-
  C03 — No free value: no operation or round trip pays out more than it debits.

  Values are compared exactly, in units of 2^-96 tokens: a position's asset value is
  `shares·asv` (product of two 2^-48 bit patterns), `n` tokens are `n·2^96`. The theorems about
  Mfi/Model/Bank.lean (diffed against the real BankAccountWrapper by the `wrapper` family) are proved in
  Mfi/Lemmas/FreeL.lean and restated here in full; the theorems about the WHOLE instructions of Mfi/Model/World.lean are
  the position's side of `deposit_booked`, `borrow_booked`, `withdraw_booked`, `repay_booked` (Mfi/Lemmas/WorldSolv.lean).
-/
import Mfi.Lemmas.WorldTxSolv

namespace Mfi.Props.C03
open Mfi Mfi.Fx Mfi.Bank Mfi.Gen Mfi.Token

export Mfi.FreeL (netValue Holder UserOp phi applyOp opAmount Good runOps FeeCfgOk demoBank demoUser)

/-- trunc(v·2^48 / sv)·sv ≤ v·2^48 : shares bought with `v` are worth at most `v` -/
theorem shares_value_le {v sv s : Int} (hv : 0 ≤ v) (hsv : 0 < sv) (h : div? v sv = some s) :
    s * sv ≤ v * ONE ∧ v * ONE < (s + 1) * sv ∧ 0 ≤ s :=
  Mfi.FreeL.shares_value_le hv hsv h

theorem assetShares_spec {b : Bank} {v s : Int} (hv : 0 ≤ v) (hsv : 0 < b.asv) (h : assetShares b v = .ok s) :
    s * b.asv ≤ v * ONE ∧ v * ONE < (s + 1) * b.asv ∧ 0 ≤ s :=
  Mfi.FreeL.assetShares_spec hv hsv h

theorem liabShares_spec {b : Bank} {v s : Int} (hv : 0 ≤ v) (hsv : 0 < b.lsv) (h : liabShares b v = .ok s) :
    s * b.lsv ≤ v * ONE ∧ v * ONE < (s + 1) * b.lsv ∧ 0 ≤ s :=
  Mfi.FreeL.liabShares_spec hv hsv h

/-- Any successful balance increase by `delta` (deposit,
    repay, liquidation credit) raises the position's net value by AT MOST `delta` — never more than
    was paid in. Holds for every share value, position and amount. -/
theorem increase_no_gain {b0 b' : Bank} {x0 x' : Balance} {now delta : Int} {t : IncType}
    (h : increaseBalance b0 x0 now delta t = .ok (b', x'))
    (hd : 0 ≤ delta) (hasv : 0 < b0.asv) (hlsv : 0 < b0.lsv) (hl : 0 ≤ x0.l) :
    netValue b' x' - netValue b0 x0 ≤ delta * ONE :=
  Mfi.FreeL.increase_no_gain h hd hasv hlsv hl

/-- Any successful balance decrease by `delta` (withdraw,
    borrow, liquidation debit) lowers the position's net value by MORE than `delta − (asv + lsv)·2^-48`:
    the user is paid `delta` and gives up at least that, up to one ulp of each share value. -/
theorem decrease_bounded_gain {b0 b' : Bank} {x0 x' : Balance} {now delta : Int} {t : DecType}
    (h : decreaseBalance b0 x0 now delta t = .ok (b', x'))
    (hd : 0 ≤ delta) (hasv : 0 < b0.asv) (hlsv : 0 < b0.lsv) (ha0 : 0 ≤ x0.a) :
    delta * ONE - (b0.asv + b0.lsv) < netValue b0 x0 - netValue b' x' :=
  Mfi.FreeL.decrease_bounded_gain h hd hasv hlsv ha0

/-- `withdraw_all` rounds down: the tokens paid by a full withdrawal never exceed the exact value
    of the closed deposit (`payout·2^96 ≤ shares·asv`); the only thing the user can "gain" is the
    dust debt (value below ZERO_AMOUNT_THRESHOLD, checked by the code) that closing abandons. -/
theorem withdraw_all_rounds_down {b0 b' : Bank} {x0 x' : Balance} {now amt : Int}
    (h : withdrawAll b0 x0 now = .ok (b', x', amt)) (hasv : 0 ≤ b0.asv) (ha : 0 ≤ x0.a) :
    amt * ONE * ONE ≤ x0.a * b0.asv ∧ x'.a = 0 ∧ x'.l = 0 ∧ x'.active = false ∧
    (∃ curL, liabAmount b0 x0.l = .ok curL ∧ isZeroTol curL ZERO_AMOUNT_THRESHOLD = true) :=
  Mfi.FreeL.withdraw_all_rounds_down h hasv ha

/-- `repay_all` rounds up: the tokens charged by a full repayment are at least the exact value
    of the closed debt minus one 2^-48 ulp (`charge·2^96 > shares·lsv − 2^48`). -/
theorem repay_all_rounds_up {b0 b' : Bank} {x0 x' : Balance} {now amt : Int}
    (h : repayAll b0 x0 now = .ok (b', x', amt)) :
    x0.l * b0.lsv - ONE < amt * ONE * ONE ∧ x'.a = 0 ∧ x'.l = 0 ∧ x'.active = false :=
  Mfi.FreeL.repay_all_rounds_up h

theorem map_ok {α β : Type} {r : Res α} {f : α → β} {y : β} (h : r.map f = .ok y) : ∃ a, r = .ok a ∧ f a = y :=
  Res.map_ok h

theorem inc_sv {b0 b' : Bank} {x0 x' : Balance} {now delta : Int} {t : IncType}
    (h : increaseBalance b0 x0 now delta t = .ok (b', x')) : b'.asv = b0.asv ∧ b'.lsv = b0.lsv :=
  Mfi.FreeL.inc_sv h

theorem dec_sv {b0 b' : Bank} {x0 x' : Balance} {now delta : Int} {t : DecType}
    (h : decreaseBalance b0 x0 now delta t = .ok (b', x')) : b'.asv = b0.asv ∧ b'.lsv = b0.lsv :=
  Mfi.FreeL.dec_sv h

theorem inc_nonneg {b0 b' : Bank} {x0 x' : Balance} {now delta : Int} {t : IncType}
    (h : increaseBalance b0 x0 now delta t = .ok (b', x'))
    (hd : 0 ≤ delta) (hasv : 0 < b0.asv) (hlsv : 0 < b0.lsv) (ha : 0 ≤ x0.a) (hl : 0 ≤ x0.l) :
    0 ≤ x'.a ∧ 0 ≤ x'.l :=
  Mfi.FreeL.inc_nonneg h hd hasv hlsv ha hl

theorem dec_nonneg {b0 b' : Bank} {x0 x' : Balance} {now delta : Int} {t : DecType}
    (h : decreaseBalance b0 x0 now delta t = .ok (b', x'))
    (hd : 0 ≤ delta) (hasv : 0 < b0.asv) (hlsv : 0 < b0.lsv) (ha : 0 ≤ x0.a) (hl : 0 ≤ x0.l) :
    0 ≤ x'.a ∧ 0 ≤ x'.l :=
  Mfi.FreeL.dec_nonneg h hd hasv hlsv ha hl

/-- One successful deposit / withdraw / borrow / repay of a non-negative token amount
    changes `wallet + net position value` by LESS than (asv + lsv)·2^-48 tokens — and not at all
    in the user's favour for deposits and repayments. -/
theorem op_gain_le {b b' : Bank} {u u' : Holder} {now : Int} {op : UserOp}
    (h : applyOp b u now op = .ok (b', u')) (hg : Good b u) (hn : 0 ≤ opAmount op) :
    phi b' u' < phi b u + (b.asv + b.lsv) ∧ Good b' u' ∧ b'.asv = b.asv ∧ b'.lsv = b.lsv :=
  Mfi.FreeL.op_gain_le h hg hn

/-- For EVERY sequence (any length, any order, any amounts, any timestamps) of
    deposits, withdrawals, borrows and repayments on a position at unchanged share values, the
    user's wallet plus net position value grows by less than n·(asv+lsv)·2^-48 tokens in total —
    i.e. no sequence extracts value; each operation can at most recover rounding dust below one
    ulp of each share value. -/
theorem round_trip (ops : List (Int × UserOp)) :
    ∀ (b : Bank) (u : Holder), Good b u → (∀ p ∈ ops, 0 ≤ opAmount p.2) →
      phi (runOps b u ops).1 (runOps b u ops).2 ≤ phi b u + ops.length * (b.asv + b.lsv) ∧
      (runOps b u ops).1.asv = b.asv ∧ (runOps b u ops).1.lsv = b.lsv :=
  Mfi.FreeL.round_trip ops

theorem chkU64_some {x y : Int} (h : chkU64 x = some y) : y = x ∧ 0 ≤ x ∧ x ≤ U64MAX :=
  Mfi.FreeL.chkU64_some h

/-- For every Token-2022 transfer-fee configuration (0 ≤ bps ≤ 10000, any cap)
    and every amount, the pre-fee amount marginfi pulls from the depositor, minus the fee the token
    program then withholds, is at least the amount booked: the vault never receives less than the
    bank credits. -/
theorem prefee_covers {bps maxFee post pre f : Int} (hb0 : 0 ≤ bps) (hb1 : bps ≤ 10000) (hm : 0 ≤ maxFee)
    (hp : 0 ≤ post) (h : preFee bps maxFee post = some pre) (hf : fee bps maxFee pre = some f) :
    post ≤ pre - f :=
  Mfi.FreeL.prefee_covers hb0 hb1 hm hp h hf

/-- The same (`prefee_covers`) at the level of the MINT, in every epoch — before, exactly at and after the activation
    of a scheduled fee change: the pre-fee amount marginfi computes for the mint (`calculate_pre_fee_spl_deposit_amount`), minus
    what the token program withholds from that transfer in that epoch (`calculate_epoch_fee`: the newer fee FROM its activation
    epoch on), is at least the amount booked. Both sides are tied to the code by the `tf.mint` lines of the tokenfee family: the
    real helpers and the real token program's arithmetic on really laid-out mint accounts. -/
theorem mint_prefee_covers {m : Mint} {epoch post pre f : Int} (hp : 0 ≤ post)
    (hm : ∀ c, m = .t22fee c → FeeCfgOk c)
    (h : mintPre m epoch post = some pre) (hf : mintFee m epoch pre = some f) : post ≤ pre - f :=
  Mfi.FreeL.mint_prefee_covers hp hm h hf

/-- the epoch rule is inclusive: in the activation epoch itself the NEWER fee is the one in force -/
theorem epoch_fee_inclusive (c : FeeCfg) : epochFee c c.newerEpoch = (c.newerBps, c.newerMax) :=
  Mfi.FreeL.epoch_fee_inclusive c

/-- the token-denominated accounting this file is about is the only accounting the standard instructions can reach:
    they are constrained to the program's own banks (constraint table regenerated from the source; Mfi.TagL) -/
theorem standard_instructions_only_on_own_banks : Mfi.TagL.OwnBanks :=
  Mfi.FreeL.standard_instructions_only_on_own_banks

/-! ### no free value at the level of WHOLE instructions (Mfi/Model/World.lean; proofs in Mfi/Lemmas/WorldSolv.lean)

`Pre c`: the context's books carry non-negative share values and fee buckets, the account's slots hold non-negative shares,
the bank's configuration is an accepted one (`CfgOk`) and a live bank has a positive deposit share value — the invariant `SInv`
of the world state machine provides all of it for every reachable state (C01 `world_solvency_history`). Values in 2^-96 token;
`b` is the bank's books as the instruction itself accrued them. -/

section whole_instructions
open Mfi.World

/-- A whole `lending_account_deposit` (clamped to the capacity or not, on a found or created slot,
    any mint) raises the net value of the position it touches by no more than the tokens that reached the liquidity vault -/
theorem world_deposit_no_free_value {c : Ctx} {amount : Int} {upTo : Bool} {o : Out} (h : World.deposit c amount upTo = .ok o)
    (hp : Pre c) (ha : 0 ≤ amount) :
    ∃ (b : Bank), accrueInterest c.b.books c.b.ir c.now = .ok b ∧
      ((o.tokens = 0 ∧ o.slots = c.a.slots) ∨
       ∃ (slots : List Account.Slot) (i : Nat) (s : Account.Slot) (x' : Balance),
          Account.findOrCreate c.a.slots c.b.key b.assetTag c.now = .ok (slots, i) ∧
          slots[i]? = some s ∧ o.slots = writeSlot c slots i x' ∧
          netValue o.books x' - netValue b (toBal s) ≤ received c.ixEnv o.tokens * ONE * ONE) :=
  (deposit_booked h hp ha).2

/-- A whole `lending_account_borrow` lowers the position's net value by more than the tokens paid
    out (the origination fee on top), short of them by less than one unit of each share value -/
theorem world_borrow_no_free_value {c : Ctx} {amount : Int} {o : Out} (h : World.borrow c amount = .ok o) (hp : Pre c) (ha : 0 ≤ amount) :
    ∃ (b : Bank) (slots : List Account.Slot) (i : Nat) (s : Account.Slot) (x' : Balance),
      accrueInterest c.b.books c.b.ir c.now = .ok b ∧
      Account.findOrCreate c.a.slots c.b.key b.assetTag c.now = .ok (slots, i) ∧ slots[i]? = some s ∧ o.slots = writeSlot c slots i x' ∧
      o.tokens * ONE * ONE - (b.asv + b.lsv) < netValue b (toBal s) - netValue o.books x' :=
  (borrow_booked h hp ha).2

/-- A partial `lending_account_withdraw` lowers the position's net value by more than the tokens
    that leave the vault, short of them by less than one unit of each share value; a complete one pays no more than the exact
    value of the closed deposit (and a completed deleverage pays at most that) -/
theorem world_withdraw_no_free_value {c : Ctx} {amount : Int} {all : Bool} {o : Out} (h : World.withdraw c amount all = .ok o)
    (hp : Pre c) (ha : 0 ≤ amount) :
    ∃ (b : Bank) (i : Nat) (s : Account.Slot) (x' : Balance), accrueInterest c.b.books c.b.ir c.now = .ok b ∧ findSlot c = .ok (i, s) ∧
      o.slots = writeSlot c c.a.slots i x' ∧
      (if all then o.tokens * ONE * ONE ≤ s.a * b.asv ∧ x'.a = 0 ∧ x'.l = 0
       else o.tokens * ONE * ONE - (b.asv + b.lsv) < netValue b (toBal s) - netValue o.books x') :=
  (withdraw_booked h hp ha).2

/-- A partial `lending_account_repay` raises the position's net value by no more than the tokens that
    reached the vault; a complete one charges at least the exact value of the closed debt less one ulp — unless it is the risk
    admin's token-less repayment on a bank flagged for it (the sanctioned write-off of a sunset bank) -/
theorem world_repay_no_free_value {c : Ctx} {amount : Int} {all : Bool} {o : Out} (h : World.repay c amount all = .ok o)
    (hp : Pre c) (ha : 0 ≤ amount) :
    ∃ (b : Bank) (i : Nat) (s : Account.Slot) (x' : Balance), accrueInterest c.b.books c.b.ir c.now = .ok b ∧ findSlot c = .ok (i, s) ∧
      o.slots = writeSlot c c.a.slots i x' ∧
      (if all then x'.a = 0 ∧ x'.l = 0 ∧ (tokenless c true = false → s.l * b.lsv - ONE < received c.ixEnv o.tokens * ONE * ONE)
       else netValue o.books x' - netValue b (toBal s) ≤ received c.ixEnv o.tokens * ONE * ONE) :=
  (repay_booked h hp ha).2

/-! ### … in every committed transaction, over every history

The four theorems above need the state the instruction runs on to be sound (`Pre`: share values, fee buckets and position shares
non-negative, a live bank's deposit share value positive). That is part of the invariant `SInv`, which every accepted instruction of
every transaction keeps (`stepIn_sinv`): so from a sound state, every user instruction of every committed transaction — inside a
flash-loan or receivership bracket or not — ran in a context for which the no-free-value bound holds. -/

/-- the context instruction `i` of transaction `tx` ran in: built from the (sound) state the transaction had reached before it -/
def Reached (w : WState) (tx : List TOp) (i ai bi signer : Nat) (vault : Int) (c : Ctx) : Prop :=
  ∃ (wi : WState) (a : AcctV) (b : WBank), w.before tx i = some wi ∧ SInv wi ∧ wi.accts[ai]? = some a ∧ wi.banks[bi]? = some b ∧
    c = wi.ctx a b signer b.v.liquidityVault vault

theorem world_tx_deposit_no_free_value {w w' : WState} {tx : List TOp} (h : w.runTx tx = some w') (hi : SInv w) (hok : ∀ t ∈ tx, t.Ok)
    {i ai bi signer : Nat} {amount : Int} {upTo : Bool} (hix : tx[i]? = some (.ix (.deposit ai bi signer amount upTo))) :
    ∃ (c : Ctx) (o : Out), Reached w tx i ai bi signer 0 c ∧ World.deposit c amount upTo = .ok o ∧
      ∃ (b : Bank), accrueInterest c.b.books c.b.ir c.now = .ok b ∧
        ((o.tokens = 0 ∧ o.slots = c.a.slots) ∨
         ∃ (slots : List Account.Slot) (i : Nat) (s : Account.Slot) (x' : Balance),
            Account.findOrCreate c.a.slots c.b.key b.assetTag c.now = .ok (slots, i) ∧
            slots[i]? = some s ∧ o.slots = writeSlot c slots i x' ∧
            netValue o.books x' - netValue b (toBal s) ≤ received c.ixEnv o.tokens * ONE * ONE) := by
  obtain ⟨wi, wi', hbef, hsi, hst⟩ := runTx_at_sinv h hi hok hix
  obtain ⟨a, b, o, ha, hb, ho⟩ := accepted_user (.deposit ..) (stepIn_accepted hst)
  exact ⟨_, o, ⟨wi, a, b, hbef, hsi, ha, hb, rfl⟩, ho, world_deposit_no_free_value ho (pre_of_inv hsi ha hb signer _ 0) (hok _ (List.mem_of_getElem? hix))⟩

theorem world_tx_borrow_no_free_value {w w' : WState} {tx : List TOp} (h : w.runTx tx = some w') (hi : SInv w) (hok : ∀ t ∈ tx, t.Ok)
    {i ai bi signer : Nat} {amount : Int} (hix : tx[i]? = some (.ix (.borrow ai bi signer amount))) :
    ∃ (c : Ctx) (o : Out), Reached w tx i ai bi signer 0 c ∧ World.borrow c amount = .ok o ∧
      ∃ (b : Bank) (slots : List Account.Slot) (i : Nat) (s : Account.Slot) (x' : Balance),
        accrueInterest c.b.books c.b.ir c.now = .ok b ∧
        Account.findOrCreate c.a.slots c.b.key b.assetTag c.now = .ok (slots, i) ∧ slots[i]? = some s ∧ o.slots = writeSlot c slots i x' ∧
        o.tokens * ONE * ONE - (b.asv + b.lsv) < netValue b (toBal s) - netValue o.books x' := by
  obtain ⟨wi, wi', hbef, hsi, hst⟩ := runTx_at_sinv h hi hok hix
  obtain ⟨a, b, o, ha, hb, ho⟩ := accepted_user (.borrow ..) (stepIn_accepted hst)
  exact ⟨_, o, ⟨wi, a, b, hbef, hsi, ha, hb, rfl⟩, ho, world_borrow_no_free_value ho (pre_of_inv hsi ha hb signer _ 0) (hok _ (List.mem_of_getElem? hix))⟩

theorem world_tx_withdraw_no_free_value {w w' : WState} {tx : List TOp} (h : w.runTx tx = some w') (hi : SInv w) (hok : ∀ t ∈ tx, t.Ok)
    {i ai bi signer : Nat} {amount vault : Int} {all : Bool} (hix : tx[i]? = some (.ix (.withdraw ai bi signer amount all vault))) :
    ∃ (c : Ctx) (o : Out), Reached w tx i ai bi signer vault c ∧ World.withdraw c amount all = .ok o ∧
      ∃ (b : Bank) (i : Nat) (s : Account.Slot) (x' : Balance), accrueInterest c.b.books c.b.ir c.now = .ok b ∧ findSlot c = .ok (i, s) ∧
        o.slots = writeSlot c c.a.slots i x' ∧
        (if all then o.tokens * ONE * ONE ≤ s.a * b.asv ∧ x'.a = 0 ∧ x'.l = 0
         else o.tokens * ONE * ONE - (b.asv + b.lsv) < netValue b (toBal s) - netValue o.books x') := by
  obtain ⟨wi, wi', hbef, hsi, hst⟩ := runTx_at_sinv h hi hok hix
  obtain ⟨a, b, o, ha, hb, ho⟩ := accepted_user (.withdraw ..) (stepIn_accepted hst)
  exact ⟨_, o, ⟨wi, a, b, hbef, hsi, ha, hb, rfl⟩, ho, world_withdraw_no_free_value ho (pre_of_inv hsi ha hb signer _ vault) (hok _ (List.mem_of_getElem? hix))⟩

theorem world_tx_repay_no_free_value {w w' : WState} {tx : List TOp} (h : w.runTx tx = some w') (hi : SInv w) (hok : ∀ t ∈ tx, t.Ok)
    {i ai bi signer : Nat} {amount : Int} {all : Bool} (hix : tx[i]? = some (.ix (.repay ai bi signer amount all))) :
    ∃ (c : Ctx) (o : Out), Reached w tx i ai bi signer 0 c ∧ World.repay c amount all = .ok o ∧
      ∃ (b : Bank) (i : Nat) (s : Account.Slot) (x' : Balance), accrueInterest c.b.books c.b.ir c.now = .ok b ∧ findSlot c = .ok (i, s) ∧
        o.slots = writeSlot c c.a.slots i x' ∧
        (if all then x'.a = 0 ∧ x'.l = 0 ∧ (tokenless c true = false → s.l * b.lsv - ONE < received c.ixEnv o.tokens * ONE * ONE)
         else netValue o.books x' - netValue b (toBal s) ≤ received c.ixEnv o.tokens * ONE * ONE) := by
  obtain ⟨wi, wi', hbef, hsi, hst⟩ := runTx_at_sinv h hi hok hix
  obtain ⟨a, b, o, ha, hb, ho⟩ := accepted_user (.repay ..) (stepIn_accepted hst)
  exact ⟨_, o, ⟨wi, a, b, hbef, hsi, ha, hb, rfl⟩, ho, world_repay_no_free_value ho (pre_of_inv hsi ha hb signer _ 0) (hok _ (List.mem_of_getElem? hix))⟩

end whole_instructions

/-- the premises of the history theorem are satisfiable, and the operations really run -/
example : Good demoBank demoUser := by unfold Mfi.FreeL.Good; decide
example : (applyOp demoBank demoUser 0 (.deposit 7)).isOk = true := by decide
example : (runOps demoBank demoUser [(0, .deposit 7), (0, .withdraw 3), (0, .withdraw 3)]).2.wallet = 999 := by decide

end Mfi.Props.C03
