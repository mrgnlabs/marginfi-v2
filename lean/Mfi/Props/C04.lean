/-
  C04 — Risk gate: a successful borrow or withdraw leaves the account initially healthy.

  Theorems about Mfi/Model/Risk.lean (diffed against the REAL risk engine through the real
  `lending_account_pulse_health` instruction by the `health` family) and about the handler skeletons
  regenerated from the source.
-/
import Mfi.Lemmas.ConstL
import Mfi.Lemmas.ListL
import Mfi.Lemmas.RiskL
import Mfi.Lemmas.SkelL
import Mfi.Lemmas.WorldL

namespace Mfi.Props.C04
open Mfi Mfi.Fx Mfi.Risk Mfi.Gen

theorem exp10fx_pos {d e : Int} (h : exp10fx d = .ok e) : 0 < e := exp10fx_ok h

/-- `calc_value(amount, price, decimals, weight)` never exceeds the exact product
    amount·weight·price/10^decimals and falls short of it by less than
    1 + 1/10^d + price/10^d ulps, price counted in whole units (the three roundings are downwards, each loses less than
    one ulp). -/
theorem value_bounds {amount price d w v scale : Int} (hs : exp10fx d = .ok scale)
    (ha : 0 ≤ amount) (hp : 0 ≤ price) (hw : 0 ≤ w) (h : calcValue amount price d (some w) = .ok v) :
    0 ≤ v ∧ v * scale * ONE ≤ amount * w * price ∧
    amount * w * price < (v + 1) * scale * ONE + ONE * ONE + ONE * price := by
  have hsc := exp10fx_pos hs
  by_cases h0 : amount = 0
  · subst h0
    cases Res.pure_ok h
    have : 0 < scale * ONE := Int.mul_pos hsc ONE_pos
    simp only [Int.zero_mul, Int.zero_add, Int.one_mul, ONE_eq] at *
    omega
  · obtain ⟨sc, x1, x2, hs', _, hx1, hx2, hv⟩ := calcValue_ok h h0
    cases Res.pure_ok (hs.symm.trans hs')
    -- three floors, each losing less than one ulp: of amount·w, of that times price, of that over the scale
    obtain ⟨f1a, f1b⟩ := mul?_floor hx1
    have x1n := mul?_nonneg ha hw hx1
    obtain ⟨f2a, f2b⟩ := mul?_floor hx2
    obtain ⟨vn, f3a, f3b⟩ := div?_floor (mul?_nonneg x1n hp hx2) hsc hv
    -- the first floor, times the price: the only step that is not linear in `x1 * price`, `v * scale`
    have g1a : x1 * price * ONE ≤ amount * w * price := by
      rw [Int.mul_right_comm]; exact Int.mul_le_mul_of_nonneg_right f1a hp
    have g1b : amount * w * price ≤ x1 * price * ONE + (ONE - 1) * price := by
      have := Int.mul_le_mul_of_nonneg_right (show amount * w ≤ x1 * ONE + (ONE - 1) by omega) hp
      rwa [Int.add_mul, Int.mul_right_comm x1] at this
    rw [Int.add_mul, Int.one_mul]
    simp only [ONE_eq] at *
    omega

/-- The initial-margin check passes exactly when the three requirement sums are computable,
    weighted assets cover weighted liabilities, and the risk-tier rule holds. -/
theorem gate_iff (ps : List Pos) :
    checkInitHealth ps = .ok () ↔ ∃ c, components ps .initial = .ok c ∧ c.liabs ≤ c.assets ∧ riskTiers ps = .ok () := by
  refine ⟨checkInitHealth_ok, ?_⟩
  intro ⟨c, hc, hle, ht⟩
  unfold checkInitHealth
  rw [hc]
  exact (if_pos hle).trans ht

/-- an isolated-tier debt must be the account's only debt -/
theorem riskTiers_iff (ps : List Pos) :
    riskTiers ps = .ok () ↔
      (((ps.filter fun p => !liabEmpty p).filter fun p => p.bank.tier == .isolated).length = 0 ∨
       (ps.filter fun p => !liabEmpty p).length = 1) :=
  ⟨fun h => (Res.of_ite_else_error h).1, fun h => if_pos h⟩

/-- positions holding less than one native unit on both sides count as empty: they add nothing -/
theorem dust_counts_as_empty (p : Pos) (r : Req) (em : List Entry)
    (ha : p.a < EMPTY_BALANCE_THRESHOLD) (hl : p.l < EMPTY_BALANCE_THRESHOLD) :
    weightedValue p r em = .ok (0, 0, 0, 0) := by
  unfold weightedValue getSide
  have h1 : ¬ (p.l ≥ EMPTY_BALANCE_THRESHOLD) := by omega
  have h2 : ¬ (p.a ≥ EMPTY_BALANCE_THRESHOLD) := by omega
  simp [ha, hl, h1, h2, bind, Except.bind]

/-- collateral is valued at the LOW-biased, debt at the HIGH-biased price of the requirement's price type
    (time-weighted for the initial and equity requirements, real-time for maintenance), with the bank's
    weight for that requirement -/
theorem debt_valued_high (p : Pos) (r : Req) (v pr : Int) (h : weightedLiab p r = .ok (v, pr)) :
    ∃ amt, priceOfType p.feed r.ptype (some .high) p.bank.maxConf = .ok pr ∧ liabAmount p.bank p.l = .ok amt ∧
      calcValue amt pr p.bank.decimals (some (bankWeight p.bank r .liabs)) = .ok v := by
  unfold weightedLiab at h
  cases hf : p.feed <;> rw [hf] at h <;> dsimp only at h
  case failed c => cases h
  all_goals
    obtain ⟨hi, hhi, h⟩ := Res.bind_ok h
    obtain ⟨amt, hamt, h⟩ := Res.bind_ok h
    obtain ⟨vv, hcv, h⟩ := Res.bind_ok h
    cases Res.pure_ok h
    exact ⟨amt, hhi, hamt, hcv⟩

/-! ### a liquidation buffer: at equal prices, initially healthy ⇒ healthy at maintenance level (C13's consequence) -/

/-- what C13 establishes for every accepted bank configuration, as far as the valuation reads it -/
def Coherent (b : BankR) : Prop :=
  0 ≤ b.aInit ∧ b.aInit ≤ b.aMaint ∧ 0 ≤ b.lMaint ∧ b.lMaint ≤ b.lInit ∧ 0 ≤ b.asv ∧ 0 ≤ b.lsv

def EntriesOk (em : List Entry) : Prop := ∀ e ∈ em, e.tag ≠ 0 → 0 ≤ e.wInit ∧ e.wInit ≤ e.wMaint

theorem calcValue_mono_weight {amt price d w1 w2 v1 v2 : Int} (ha : 0 ≤ amt) (hp : 0 ≤ price) (hw1 : 0 ≤ w1) (hw : w1 ≤ w2)
    (h1 : calcValue amt price d (some w1) = .ok v1) (h2 : calcValue amt price d (some w2) = .ok v2) : 0 ≤ v1 ∧ v1 ≤ v2 := by
  by_cases h0 : amt = 0
  · subst h0
    cases Res.pure_ok h1; cases Res.pure_ok h2
    exact ⟨Int.le_refl _, Int.le_refl _⟩
  · obtain ⟨s, x1, y1, hs, hsc, hx1, hy1, hv1⟩ := calcValue_ok h1 h0
    obtain ⟨s', x2, y2, hs', _, hx2, hy2, hv2⟩ := calcValue_ok h2 h0
    rw [hs] at hs'
    cases Res.pure_ok hs'
    have x1n := mul?_nonneg ha hw1 hx1
    have y1n := mul?_nonneg x1n hp hy1
    have hy := mul?_mono hy1 hy2 x1n hp (mul?_mono hx1 hx2 ha hw1 (Int.le_refl _) hw) (Int.le_refl _)
    rw [div?_sharesOf hv1, div?_sharesOf hv2]
    exact ⟨sharesOf_nonneg y1n (Int.le_of_lt hsc), sharesOf_mono y1n hy hsc⟩

theorem weight0_mono {b : BankR} {em : List Entry} (hc : Coherent b) (hem : EntriesOk em) :
    0 ≤ assetWeight0 b .initial em ∧ assetWeight0 b .initial em ≤ assetWeight0 b .maint em := by
  obtain ⟨c1, c2, _⟩ := hc
  unfold assetWeight0
  cases hfe : findWithTag em b.emodeTag with
  | none => simp only [bankWeight]; exact ⟨c1, c2⟩
  | some e =>
    simp only [bankWeight]
    obtain ⟨hmem, htag⟩ := findWithTag_some hfe
    have := (hem e hmem htag).2
    exact ⟨Int.le_trans c1 (Int.le_max_left _ _),
      Int.max_le.mpr ⟨Int.le_trans c2 (Int.le_max_left _ _), Int.le_trans this (Int.le_max_right _ _)⟩⟩

theorem discount_le_one {b : BankR} {price d : Int} (h : initDiscount b price = .ok (some d)) (hl : 0 ≤ b.initLimit) :
    0 ≤ d ∧ d ≤ ONE := by
  obtain ⟨ta, tot, _, _, hgt, hq⟩ := initDiscount_some_ok h
  have hlim0 : 0 ≤ ofInt b.initLimit := Int.mul_nonneg hl (Int.le_of_lt ONE_pos)
  have htot := Int.lt_of_le_of_lt hlim0 hgt
  obtain ⟨d0, f1, _⟩ := div?_floor hlim0 htot hq
  -- d·tot ≤ limit·ONE < tot·ONE
  refine ⟨d0, Int.le_of_lt (Int.lt_of_mul_lt_mul_right (a := tot) ?_ (Int.le_of_lt htot))⟩
  rw [Int.mul_comm ONE]
  exact Int.lt_of_le_of_lt f1 (Int.mul_lt_mul_of_pos_right hgt ONE_pos)

theorem weight_init_le {b : BankR} {em : List Entry} {price w : Int} (hc : Coherent b) (hem : EntriesOk em) (hl : 0 ≤ b.initLimit)
    (h : assetWeight b .initial em price = .ok w) : 0 ≤ w ∧ w ≤ assetWeight0 b .maint em := by
  obtain ⟨w0n, w0m⟩ := weight0_mono hc hem
  rcases assetWeight_ok h with rfl | ⟨_, dd, hd, hm⟩
  · exact ⟨w0n, w0m⟩
  · obtain ⟨d0, d1⟩ := discount_le_one hd hl
    rw [(mul?_some hm).1]
    have := frac_mul_bounds w0n d0 d1
    exact ⟨this.1, Int.le_trans this.2 w0m⟩

/-- one position, priced by a type- and bias-independent (fixed) price: its initial asset value is at most its
    maintenance asset value, and its initial debt value at least its maintenance debt value -/
theorem position_init_vs_maint {p : Pos} {em : List Entry} {price ai li am lm pi pm : Int} {ci cm : Nat}
    (hf : p.feed = .fixed price) (hp : 0 ≤ price) (hc : Coherent p.bank) (hlim : 0 ≤ p.bank.initLimit)
    (ha : 0 ≤ p.a) (hl : 0 ≤ p.l) (hem : EntriesOk em)
    (hi : weightedValue p .initial em = .ok (ai, li, pi, ci)) (hm : weightedValue p .maint em = .ok (am, lm, pm, cm)) :
    0 ≤ ai ∧ ai ≤ am ∧ 0 ≤ lm ∧ lm ≤ li := by
  have hprice : ∀ {t : PType} {b : Bias} {q : Int}, priceOfType p.feed t (some b) p.bank.maxConf = .ok q → q = price := by
    intro t b q hq; rw [hf] at hq; exact (Res.pure_ok hq).symm
  have ⟨_, _, c3, c4, c5, c6⟩ := hc
  rcases weightedValue_cases p em with e | e | e | ⟨f, e⟩ <;> rw [e] at hi hm
  · -- dust on both sides
    cases Res.pure_ok hi; cases Res.pure_ok hm
    exact ⟨Int.le_refl _, Int.le_refl _, Int.le_refl _, Int.le_refl _⟩
  · -- collateral
    obtain ⟨⟨vi, pri, ci'⟩, hwi, hi⟩ := Res.bind_ok hi
    obtain ⟨⟨vm, prm, cm'⟩, hwm, hm⟩ := Res.bind_ok hm
    cases Res.pure_ok hi; cases Res.pure_ok hm
    suffices key : 0 ≤ vi ∧ vi ≤ vm from ⟨key.1, key.2, Int.le_refl _, Int.le_refl _⟩
    -- at maintenance there is no `r = .initial` case: zero only on the isolated tier, and the weight undiscounted
    rcases weightedAsset_ok hwm with ⟨rfl, _, ht | hr⟩ | ⟨_, ht, _, wm, amt, hlo, hwt, hamt, hvm⟩
    · -- isolated tier: nothing counts at either requirement
      rcases weightedAsset_ok hwi with ⟨rfl, _, _⟩ | ⟨_, ht', _⟩
      · exact ⟨Int.le_refl _, Int.le_refl _⟩
      · rw [ht] at ht'; cases ht'
    · cases hr
    · cases hprice hlo
      have hamt0 : 0 ≤ amt := mul?_nonneg ha c5 (math_ok hamt)
      obtain rfl := (assetWeight_ok hwt).resolve_right fun h => nomatch h.1
      rcases weightedAsset_ok hwi with ⟨rfl, _, _⟩ | ⟨_, _, _, wi, amt', hlo', hwt', hamt', hvi⟩
      · -- reduce-only bank: worth nothing for borrowing, something for liquidation
        obtain ⟨w0n, w0m⟩ := weight0_mono hc hem
        exact ⟨Int.le_refl _, (calcValue_mono_weight hamt0 hp (Int.le_trans w0n w0m) (Int.le_refl _) hvm hvm).1⟩
      · cases hprice hlo'
        rw [hamt] at hamt'; cases Res.pure_ok hamt'
        obtain ⟨wn, wle⟩ := weight_init_le hc hem hlim hwt'
        exact calcValue_mono_weight hamt0 hp wn wle hvi hvm
  · -- debt
    obtain ⟨⟨vi, pri⟩, hwi, hi⟩ := Res.bind_ok hi
    obtain ⟨⟨vm, prm⟩, hwm, hm⟩ := Res.bind_ok hm
    cases Res.pure_ok hi; cases Res.pure_ok hm
    obtain ⟨amt1, hp1, ha1, hv1⟩ := debt_valued_high _ _ _ _ hwi
    obtain ⟨amt2, hp2, ha2, hv2⟩ := debt_valued_high _ _ _ _ hwm
    cases hprice hp1; cases hprice hp2
    rw [ha1] at ha2; cases Res.pure_ok ha2
    have := calcValue_mono_weight (mul?_nonneg hl c6 (math_ok ha1)) hp c3 c4 hv2 hv1
    exact ⟨Int.le_refl _, Int.le_refl _, this.1, this.2⟩
  · cases hi

theorem loop_init_vs_maint {em : List Entry} :
    ∀ (ps : List Pos) (i : Nat) (ai am : Comps) (ci cm : Comps),
      (∀ p ∈ ps, (∃ price, p.feed = .fixed price ∧ 0 ≤ price) ∧ Coherent p.bank ∧ 0 ≤ p.bank.initLimit ∧ 0 ≤ p.a ∧ 0 ≤ p.l) →
      EntriesOk em → ai.assets ≤ am.assets → am.liabs ≤ ai.liabs →
      compsLoop .initial em ps i ai = (ci, none) → compsLoop .maint em ps i am = (cm, none) →
      ci.assets ≤ cm.assets ∧ cm.liabs ≤ ci.liabs := by
  intro ps
  induction ps with
  | nil =>
    intro i ai am ci cm _ _ h1 h2 hi hm
    cases hi; cases hm
    exact ⟨h1, h2⟩
  | cons p rest ih =>
    intro i ai am ci cm hall hem h1 h2 hi hm
    obtain ⟨avi, lvi, pri, eci, ai', hwi, ea1, el1, hi'⟩ := compsLoop_cons_ok hi
    obtain ⟨avm, lvm, prm, ecm, am', hwm, ea2, el2, hm'⟩ := compsLoop_cons_ok hm
    obtain ⟨⟨price, hf, hp⟩, hc, hlim, ha, hl⟩ := hall p (List.mem_cons_self ..)
    obtain ⟨q1, q2, q3, q4⟩ := position_init_vs_maint hf hp hc hlim ha hl hem hwi hwm
    exact ih (i + 1) ai' am' ci cm (fun q hq => hall q (List.mem_cons_of_mem _ hq)) hem (by omega) (by omega) hi' hm'

/-! e-mode reconciliation takes minima per column, so it preserves `0 ≤ init ≤ maint` -/
def AccOk (acc : List (Entry × Nat)) : Prop := ∀ x ∈ acc, 0 ≤ x.1.wInit ∧ x.1.wInit ≤ x.1.wMaint

theorem mergeEntry_ok {acc : List (Entry × Nat)} {e : Entry} (ha : AccOk acc) (he : e.tag ≠ 0 → 0 ≤ e.wInit ∧ e.wInit ≤ e.wMaint) :
    AccOk (mergeEntry acc e) := by
  unfold mergeEntry
  split
  · exact ha
  · rename_i hne
    replace he := he hne
    split
    · intro x hx
      rcases List.mem_append.1 hx with h | h
      · exact ha x h
      · simp only [List.mem_cons, List.mem_nil_iff, or_false] at h; subst h; exact he
    · intro x hx
      obtain ⟨y, hy, rfl⟩ := List.mem_map.1 hx
      have := ha y hy
      split
      · dsimp only
        split <;> split <;> omega
      · exact this

theorem foldMerge_ok : ∀ (cfg : List Entry) (acc : List (Entry × Nat)), AccOk acc → EntriesOk cfg →
    AccOk (cfg.foldl mergeEntry acc) :=
  ListL.foldl_keeps (Q := fun e : Entry => e.tag ≠ 0 → 0 ≤ e.wInit ∧ e.wInit ≤ e.wMaint) fun _ _ ha he => mergeEntry_ok ha he

theorem foldConfigs_ok : ∀ (configs : List (List Entry)) (acc : List (Entry × Nat)), AccOk acc →
    (∀ cfg ∈ configs, EntriesOk cfg) → AccOk (configs.foldl (fun acc cfg => cfg.foldl mergeEntry acc) acc) :=
  ListL.foldl_keeps fun acc cfg ha hc => foldMerge_ok cfg acc ha hc

/-- Whatever set of bank e-mode configurations is reconciled, if each is coherent
    (C13 `emode_config_coherent`) the account's effective e-mode is coherent -/
theorem reconcile_ok (configs : List (List Entry)) (h : ∀ cfg ∈ configs, EntriesOk cfg) : EntriesOk (reconcile configs) := by
  unfold reconcile
  split
  · intro e he; cases he
  · intro e he
    obtain ⟨x, hx, rfl⟩ := List.mem_map.1 he
    intro _
    exact foldConfigs_ok _ [] (fun _ h => by cases h) h x (List.mem_filter.1 hx).1

theorem accountEmode_ok (ps : List Pos) (h : ∀ p ∈ ps, EntriesOk p.bank.emode) : EntriesOk (accountEmode ps) := by
  unfold accountEmode
  apply reconcile_ok
  intro cfg hc
  obtain ⟨p, hp, rfl⟩ := List.mem_map.1 hc
  exact h p (List.mem_filter.1 hp).1

/-- The consequence clause of C13: at equal (type- and bias-independent) prices, under
    coherent bank configurations and coherent e-mode entries, an account that passes the initial-margin
    check also has non-negative maintenance health — with or without e-mode, with or without the init-limit
    discount and reduce-only banks: borrowing to the limit never makes an account immediately liquidatable. -/
theorem init_implies_maint (ps : List Pos) (ci cm : Comps)
    (hall : ∀ p ∈ ps, (∃ price, p.feed = .fixed price ∧ 0 ≤ price) ∧ Coherent p.bank ∧ 0 ≤ p.bank.initLimit ∧ 0 ≤ p.a ∧ 0 ≤ p.l)
    (hem : ∀ p ∈ ps, EntriesOk p.bank.emode)
    (hi : components ps .initial = .ok ci) (hm : components ps .maint = .ok cm) (hok : ci.liabs ≤ ci.assets) :
    ci.assets ≤ cm.assets ∧ cm.liabs ≤ ci.liabs ∧ cm.liabs ≤ cm.assets := by
  obtain ⟨r1, r2⟩ := loop_init_vs_maint ps 0 _ _ ci cm hall (accountEmode_ok ps hem) (Int.le_refl _) (Int.le_refl _)
    (components_ok hi) (components_ok hm)
  exact ⟨r1, r2, by omega⟩

/-! ### where the gate sits (handler skeletons regenerated from the source) -/

section tables
open Mfi.Gen.Skel

/-- borrow and every withdraw handler run the initial-margin check AFTER their last balance operation and
    after the re-sort; nothing that moves balances follows it -/
theorem health_check_after_last_operation :
    ∀ l ∈ [borrow, withdraw, kamino_withdraw, drift_withdraw, solend_withdraw],
      (match lastIdx l isOp, lastIdx l (· == .healthInit), lastIdx l (· == .sort) with
       | some o, some h, some s => decide (o < h ∧ s < h)
       | _, _, _ => false) = true := by decide

/-- the check is skipped only behind a test of the receivership flag (withdraw side) — borrow refuses
    accounts in receivership outright — and inside `check_account_init_health` on the flash-loan flag -/
theorem only_receivership_and_flashloan_skip :
    (∀ l ∈ [withdraw, kamino_withdraw, drift_withdraw, solend_withdraw],
      occursBefore l (· == .acctFlag .inReceivership) (· == .healthInit) = true) ∧
    occursBefore borrow (· == .acctFlag .inReceivership) isOp = true ∧
    re_check_init_health = [.acctFlag .inFlashloan] := by decide

/-- the check is unconditional in borrow, flash-loan end and liquidation, and sits under exactly one
    condition (the receivership test) in the four withdraw handlers -/
theorem health_check_conditions :
    condAt borrow borrow_cond (· == .healthInit) = some 0 ∧
    condAt end_flashloan end_flashloan_cond (· == .healthInit) = some 0 ∧
    condAt liquidate liquidate_cond (· == .healthInit) = some 0 ∧
    condAt withdraw withdraw_cond (· == .healthInit) = some 1 ∧
    condAt kamino_withdraw kamino_withdraw_cond (· == .healthInit) = some 1 ∧
    condAt drift_withdraw drift_withdraw_cond (· == .healthInit) = some 1 ∧
    condAt solend_withdraw solend_withdraw_cond (· == .healthInit) = some 1 := by decide

/-- flash loans end with the same check (C11) and liquidation checks the liquidator -/
theorem liquidator_and_flashloan_checked :
    end_flashloan.getLast? = some .healthInit ∧ liquidate.getLast? = some .healthInit := by decide

end tables

def demoBank : BankR :=
  { asv := ONE, lsv := ONE, sa := 1000 * ONE, decimals := 6, aInit := ONE / 2, aMaint := ONE / 2, lInit := ONE, lMaint := ONE,
    tier := .collateral, reduceOnly := false, emodeTag := 0, emode := [], initLimit := 0, maxConf := 0 }

def demoBank2 : BankR := { demoBank with aMaint := ONE * 3 / 4, lInit := ONE * 5 / 4, lMaint := ONE * 9 / 8 }
def demoAcct : List Pos := [ { bank := demoBank2, a := 2000000 * ONE, l := 0, feed := .fixed ONE },
                            { bank := demoBank2, a := 0, l := 700000 * ONE, feed := .fixed ONE } ]

example : checkInitHealth [ { bank := demoBank, a := 2000000 * ONE, l := 0, feed := .fixed ONE },
                            { bank := demoBank, a := 0, l := 900000 * ONE, feed := .fixed ONE } ] = .ok () := by rfl
example : checkInitHealth [ { bank := demoBank, a := 2000000 * ONE, l := 0, feed := .fixed ONE },
                            { bank := demoBank, a := 0, l := 1100000 * ONE, feed := .fixed ONE } ] = .error (.err E.RiskEngineInitRejected) := by rfl

/-- non-vacuity of `init_implies_maint`: a borrower at the initial limit meets every hypothesis and both
    valuations succeed -/
example : ∃ ci cm, components demoAcct .initial = .ok ci ∧ components demoAcct .maint = .ok cm ∧ ci.liabs ≤ ci.assets ∧
    cm.liabs ≤ cm.assets ∧ cm.liabs < ci.liabs ∧ ci.assets < cm.assets :=
  ⟨_, _, rfl, rfl, by decide, by decide, by decide, by decide⟩
example : ∀ p ∈ demoAcct, (∃ price, p.feed = .fixed price ∧ 0 ≤ price) ∧ Coherent p.bank ∧ 0 ≤ p.bank.initLimit ∧ 0 ≤ p.a ∧ 0 ≤ p.l := by
  intro p hp
  simp only [demoAcct, List.mem_cons, List.mem_nil_iff, or_false] at hp
  rcases hp with rfl | rfl <;> exact ⟨⟨_, rfl, by decide⟩, by unfold Coherent; decide, by decide, by decide, by decide⟩

/-- every valuation (calc_value) divides by the row of the scaling table chosen by the bank's balance decimals: that table is exactly the powers of ten 10^0 .. 10^23 as I80F48 (regenerated from the real
    constants on every run; the model computes its own powers of ten and is diffed against the real functions across
    ALL 24 decimals) -/
theorem scaling_table_is_powers_of_ten : Mfi.Gen.EXP_10_I80F48 = Mfi.Fx.POW10FX := Mfi.ConstL.exp10_table_exact

/-- "positions of less than one native unit count as empty": the threshold is exactly one unit -/
theorem one_native_unit : Mfi.Gen.EMPTY_BALANCE_THRESHOLD = Mfi.Fx.ONE := by decide

section whole_instructions
open Mfi Mfi.World Mfi.Gen Mfi.Gen.Acc

/-- the slot array and the books an instruction leaves behind pass the initial-margin check: the portfolio the engine sees
    is built from EXACTLY that post-state (every active slot, in slot order, the operated bank with its new books) -/
def LeavesHealthy (c : Ctx) (o : Out) : Prop :=
  ∃ ps, portfolio c o.slots o.books = .ok ps ∧ Risk.checkInitHealth ps = .ok ()

theorem initHealth_ok {c : Ctx} {slots : List Account.Slot} {b : Bank.Bank} (hf : flag c ACCOUNT_IN_FLASHLOAN = false)
    (h : initHealth c slots b = .ok ()) : ∃ ps, portfolio c slots b = .ok ps ∧ Risk.checkInitHealth ps = .ok () := by
  unfold initHealth at h
  rw [hf, if_neg Bool.false_ne_true] at h
  exact Res.bind_ok h

/-- A successful borrow outside a flash loan leaves a post-state that passes the initial
    check (borrow is refused in receivership altogether) -/
theorem world_borrow_leaves_healthy {c : Ctx} {amt : Int} {o : Out} (h : World.borrow c amt = .ok o)
    (hf : flag c ACCOUNT_IN_FLASHLOAN = false) : LeavesHealthy c o ∧ flag c ACCOUNT_IN_RECEIVERSHIP = false :=
  ⟨initHealth_ok hf (borrow_ok h).health, (borrow_ok h).flags.2⟩

/-- A successful withdrawal outside a flash loan and outside receivership leaves a
    post-state that passes the initial check -/
theorem world_withdraw_leaves_healthy {c : Ctx} {amt : Int} {all : Bool} {o : Out} (h : World.withdraw c amt all = .ok o)
    (hf : flag c ACCOUNT_IN_FLASHLOAN = false) (hr : flag c ACCOUNT_IN_RECEIVERSHIP = false) : LeavesHealthy c o := by
  have hh := (withdraw_ok h).health
  unfold withdrawHealth at hh
  rw [hr, if_neg Bool.false_ne_true] at hh
  exact initHealth_ok hf hh

/-- What passing means (`gate_iff`): weighted assets cover weighted liabilities at the initial requirement and an
    isolated-tier debt is the only debt -/
theorem world_gate_meaning {c : Ctx} {o : Out} (h : LeavesHealthy c o) :
    ∃ ps comps, portfolio c o.slots o.books = .ok ps ∧ Risk.components ps .initial = .ok comps ∧
      comps.liabs ≤ comps.assets ∧ Risk.riskTiers ps = .ok () := by
  obtain ⟨ps, hps, hc⟩ := h
  obtain ⟨comps, h1, h2, h3⟩ := (gate_iff ps).1 hc
  exact ⟨ps, comps, hps, h1, h2, h3⟩

end whole_instructions

end Mfi.Props.C04
