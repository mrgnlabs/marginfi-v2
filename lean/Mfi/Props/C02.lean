/-
  C02 — Ledger consistency: bank totals equal the sum of all user positions (+ abandoned dust).

  Closed world of ONE bank and all positions held in it (a wrapper operation touches exactly one
  bank and one position, so banks are independent). Theorems about Mfi/Model/Bank.lean, which the
  `wrapper` family diffs against the real BankAccountWrapper.
-/
import Mfi.Model.Venue
import Mfi.Props.C03

namespace Mfi.Props.C02
open Mfi Mfi.Fx Mfi.Bank Mfi.Gen

/-- same delta on both books: the bank's share totals and the position -/
theorem increase_delta_eq {b0 b' : Bank} {x0 x' : Balance} {now delta : Int} {t : IncType}
    (h : increaseBalance b0 x0 now delta t = .ok (b', x')) :
    b'.sa - b0.sa = x'.a - x0.a ∧ b'.sl - b0.sl = x'.l - x0.l := Mfi.DeltaL.increase_delta_eq h

theorem decrease_delta_eq {b0 b' : Bank} {x0 x' : Balance} {now delta : Int} {t : DecType}
    (h : decreaseBalance b0 x0 now delta t = .ok (b', x')) :
    b'.sa - b0.sa = x'.a - x0.a ∧ b'.sl - b0.sl = x'.l - x0.l := Mfi.DeltaL.decrease_delta_eq h

/-- `withdraw_all`: the bank's deposit total falls by exactly the position's deposit shares; the
    position's (dust) liability shares are abandoned: the bank's debt total is unchanged. -/
theorem withdraw_all_delta {b0 b' : Bank} {x0 x' : Balance} {now amt : Int}
    (h : withdrawAll b0 x0 now = .ok (b', x', amt)) :
    b'.sa = b0.sa - x0.a ∧ b'.sl = b0.sl ∧ x'.a = 0 ∧ x'.l = 0 ∧
    b'.asv = b0.asv ∧ b'.lsv = b0.lsv := Mfi.DeltaL.withdraw_all_delta h

theorem repay_all_delta {b0 b' : Bank} {x0 x' : Balance} {now amt : Int}
    (h : repayAll b0 x0 now = .ok (b', x', amt)) :
    b'.sl = b0.sl - x0.l ∧ b'.sa = b0.sa ∧ x'.a = 0 ∧ x'.l = 0 ∧
    b'.asv = b0.asv ∧ b'.lsv = b0.lsv := Mfi.DeltaL.repay_all_delta h

/-- `close_balance`: bank totals untouched, both (dust) sides of the position abandoned; the code
    checked that each side is worth less than ZERO_AMOUNT_THRESHOLD. -/
theorem close_balance_delta {b0 b' : Bank} {x0 x' : Balance} {now : Int}
    (h : closeBalanceOp b0 x0 now = .ok (b', x')) :
    b'.sa = b0.sa ∧ b'.sl = b0.sl ∧ x'.a = 0 ∧ x'.l = 0 ∧ b'.asv = b0.asv ∧ b'.lsv = b0.lsv ∧
    (∃ curA curL, assetAmount b0 x0.a = .ok curA ∧ liabAmount b0 x0.l = .ok curL ∧
      isZeroTol curA ZERO_AMOUNT_THRESHOLD = true ∧ isZeroTol curL ZERO_AMOUNT_THRESHOLD = true) := Mfi.DeltaL.close_balance_delta h

structure Ledger where
  bank : Bank
  bals : List Balance       -- every account's position in this bank
  dustA : Int               -- ghost: deposit shares abandoned by closed positions
  dustL : Int               -- ghost: liability shares abandoned by closed positions

inductive Op
  | open_                                   -- find_or_create: a fresh empty position
  | inc (i : Nat) (delta : Int) (t : IncType)   -- deposit / repay / liquidation credit …
  | dec (i : Nat) (delta : Int) (t : DecType)   -- withdraw / borrow / liquidation debit …
  | wdAll (i : Nat)
  | repAll (i : Nat)
  | close (i : Nat)

def sumA (l : List Balance) : Int := (l.map (·.a)).sum
def sumL (l : List Balance) : Int := (l.map (·.l)).sum

def fresh : Balance := { active := true, tag := 0, a := 0, l := 0, emis := 0, lastUpdate := 0 }

/-- a failing operation aborts and leaves the ledger unchanged -/
def step (L : Ledger) (now : Int) (op : Op) : Ledger :=
  match op with
  | .open_ => { L with bals := L.bals ++ [fresh] }
  | .inc i d t =>
    match L.bals[i]? with
    | none => L
    | some x => match increaseBalance L.bank x now d t with
      | .ok (b', x') => { L with bank := b', bals := L.bals.set i x' }
      | .error _ => L
  | .dec i d t =>
    match L.bals[i]? with
    | none => L
    | some x => match decreaseBalance L.bank x now d t with
      | .ok (b', x') => { L with bank := b', bals := L.bals.set i x' }
      | .error _ => L
  | .wdAll i =>
    match L.bals[i]? with
    | none => L
    | some x => match withdrawAll L.bank x now with
      | .ok (b', x', _) => { L with bank := b', bals := L.bals.set i x', dustL := L.dustL + x.l }
      | .error _ => L
  | .repAll i =>
    match L.bals[i]? with
    | none => L
    | some x => match repayAll L.bank x now with
      | .ok (b', x', _) => { L with bank := b', bals := L.bals.set i x', dustA := L.dustA + x.a }
      | .error _ => L
  | .close i =>
    match L.bals[i]? with
    | none => L
    | some x => match closeBalanceOp L.bank x now with
      | .ok (b', x') => { L with bank := b', bals := L.bals.set i x', dustA := L.dustA + x.a, dustL := L.dustL + x.l }
      | .error _ => L

def run (L : Ledger) (ops : List (Int × Op)) : Ledger := ops.foldl (fun L p => step L p.1 p.2) L

/-- the ledger invariant: totals = Σ positions + non-negative abandoned dust; shares non-negative;
    share values positive -/
structure Inv (L : Ledger) : Prop where
  totalA : L.bank.sa = sumA L.bals + L.dustA
  totalL : L.bank.sl = sumL L.bals + L.dustL
  dustA0 : 0 ≤ L.dustA
  dustL0 : 0 ≤ L.dustL
  nonneg : ∀ x ∈ L.bals, 0 ≤ x.a ∧ 0 ≤ x.l
  svpos : 0 < L.bank.asv ∧ 0 < L.bank.lsv

theorem sumA_set (l : List Balance) (i : Nat) (x x' : Balance) (h : l[i]? = some x) :
    sumA (l.set i x') = sumA l - x.a + x'.a := ListL.sum_map_set (fun b : Balance => b.a) l i x x' h

theorem sumL_set (l : List Balance) (i : Nat) (x x' : Balance) (h : l[i]? = some x) :
    sumL (l.set i x') = sumL l - x.l + x'.l := ListL.sum_map_set (fun b : Balance => b.l) l i x x' h

theorem mem_of_get {l : List Balance} {i : Nat} {x : Balance} (h : l[i]? = some x) : x ∈ l :=
  List.mem_of_getElem? h

theorem nonneg_set {l : List Balance} {i : Nat} {x' : Balance}
    (hall : ∀ x ∈ l, 0 ≤ x.a ∧ 0 ≤ x.l) (hx : 0 ≤ x'.a ∧ 0 ≤ x'.l) :
    ∀ y ∈ l.set i x', 0 ≤ y.a ∧ 0 ≤ y.l := ListL.forall_mem_set hall hx

/-- amounts submitted by instructions are unsigned -/
def opNonneg : Op → Prop
  | .inc _ d _ => 0 ≤ d
  | .dec _ d _ => 0 ≤ d
  | _ => True

/-- the one way the invariant is kept: position `i` is rewritten, the bank's totals move by what the position moves plus what
    is abandoned (`dA`, `dL` ≥ 0, added to the dust), the share values stay -/
theorem Inv.update {L : Ledger} (hi : Inv L) {i : Nat} {x x' : Balance} {b' : Bank} {dA dL : Int} (hget : L.bals[i]? = some x)
    (hsa : b'.sa - L.bank.sa = x'.a - x.a + dA) (hsl : b'.sl - L.bank.sl = x'.l - x.l + dL) (hdA : 0 ≤ dA) (hdL : 0 ≤ dL)
    (hnn : 0 ≤ x'.a ∧ 0 ≤ x'.l) (hasv : b'.asv = L.bank.asv) (hlsv : b'.lsv = L.bank.lsv) :
    Inv { L with bank := b', bals := L.bals.set i x', dustA := L.dustA + dA, dustL := L.dustL + dL } := by
  obtain ⟨hA, hL, dA0, dL0, hn, hsv⟩ := hi
  refine ⟨?_, ?_, Int.add_nonneg dA0 hdA, Int.add_nonneg dL0 hdL, nonneg_set hn hnn, by rw [hasv, hlsv]; exact hsv⟩
  · show b'.sa = sumA (L.bals.set i x') + (L.dustA + dA)
    rw [sumA_set _ _ _ _ hget]; omega
  · show b'.sl = sumL (L.bals.set i x') + (L.dustL + dL)
    rw [sumL_set _ _ _ _ hget]; omega

/-! the five position operations keep the invariant: each is an instance of `Inv.update` -/

theorem Inv.moved {L : Ledger} (hi : Inv L) {i : Nat} {x x' : Balance} {b' : Bank} {da dl : Int} (hget : L.bals[i]? = some x)
    (m : Moved L.bank x da dl b' x') (hnn : 0 ≤ x'.a ∧ 0 ≤ x'.l) : Inv { L with bank := b', bals := L.bals.set i x' } := by
  have := hi.update (dA := 0) (dL := 0) hget (by rw [m.sa, m.a]; omega) (by rw [m.sl, m.l]; omega) (Int.le_refl _)
    (Int.le_refl _) hnn m.asv m.lsv
  simpa only [Int.add_zero] using this

theorem Inv.inc {L : Ledger} (hi : Inv L) {i : Nat} {x x' : Balance} {b' : Bank} {now d : Int} {t : IncType}
    (hget : L.bals[i]? = some x) (hres : increaseBalance L.bank x now d t = .ok (b', x')) (hd : 0 ≤ d) :
    Inv { L with bank := b', bals := L.bals.set i x' } :=
  have hx := hi.nonneg x (mem_of_get hget)
  hi.moved hget (increase_moved hres) (Mfi.Props.C03.inc_nonneg hres hd hi.svpos.1 hi.svpos.2 hx.1 hx.2)

theorem Inv.dec {L : Ledger} (hi : Inv L) {i : Nat} {x x' : Balance} {b' : Bank} {now d : Int} {t : DecType}
    (hget : L.bals[i]? = some x) (hres : decreaseBalance L.bank x now d t = .ok (b', x')) (hd : 0 ≤ d) :
    Inv { L with bank := b', bals := L.bals.set i x' } :=
  have hx := hi.nonneg x (mem_of_get hget)
  hi.moved hget (decrease_moved hres) (Mfi.Props.C03.dec_nonneg hres hd hi.svpos.1 hi.svpos.2 hx.1 hx.2)

theorem Inv.wdAll {L : Ledger} (hi : Inv L) {i : Nat} {x x' : Balance} {b' : Bank} {now amt : Int}
    (hget : L.bals[i]? = some x) (hres : withdrawAll L.bank x now = .ok (b', x', amt)) :
    Inv { L with bank := b', bals := L.bals.set i x', dustL := L.dustL + x.l } := by
  have hx := hi.nonneg x (mem_of_get hget)
  obtain ⟨h1, h2, h3, h4, h5, h6⟩ := withdraw_all_delta hres
  have := hi.update (x' := x') (b' := b') (dA := 0) (dL := x.l) hget (by omega) (by omega) (Int.le_refl _) hx.2 (by omega) h5 h6
  simpa only [Int.add_zero] using this

theorem Inv.repAll {L : Ledger} (hi : Inv L) {i : Nat} {x x' : Balance} {b' : Bank} {now amt : Int}
    (hget : L.bals[i]? = some x) (hres : repayAll L.bank x now = .ok (b', x', amt)) :
    Inv { L with bank := b', bals := L.bals.set i x', dustA := L.dustA + x.a } := by
  have hx := hi.nonneg x (mem_of_get hget)
  obtain ⟨h1, h2, h3, h4, h5, h6⟩ := repay_all_delta hres
  have := hi.update (x' := x') (b' := b') (dA := x.a) (dL := 0) hget (by omega) (by omega) hx.1 (Int.le_refl _) (by omega) h5 h6
  simpa only [Int.add_zero] using this

theorem Inv.close {L : Ledger} (hi : Inv L) {i : Nat} {x x' : Balance} {b' : Bank} {now : Int}
    (hget : L.bals[i]? = some x) (hres : closeBalanceOp L.bank x now = .ok (b', x')) :
    Inv { L with bank := b', bals := L.bals.set i x', dustA := L.dustA + x.a, dustL := L.dustL + x.l } := by
  have hx := hi.nonneg x (mem_of_get hget)
  obtain ⟨h1, h2, h3, h4, h5, h6, _⟩ := close_balance_delta hres
  exact hi.update (x' := x') (b' := b') hget (by omega) (by omega) hx.1 hx.2 (by omega) h5 h6

/-- of the bank the invariant reads the two share totals and the sign of the two share values -/
theorem Inv.books {L : Ledger} (hi : Inv L) {b' : Bank} (hsa : b'.sa = L.bank.sa) (hsl : b'.sl = L.bank.sl)
    (hasv : L.bank.asv ≤ b'.asv) (hlsv : L.bank.lsv ≤ b'.lsv) : Inv { L with bank := b' } :=
  ⟨hsa.trans hi.totalA, hsl.trans hi.totalL, hi.dustA0, hi.dustL0, hi.nonneg,
    Int.lt_of_lt_of_le hi.svpos.1 hasv, Int.lt_of_lt_of_le hi.svpos.2 hlsv⟩

/-- every case of `step` but `open_` starts by looking up position `i` and does nothing when there is none: it keeps what the
    ledger has and every rewrite of a position that is there keeps -/
theorem onPos {P : Ledger → Prop} {L : Ledger} (hL : P L) {i : Nat} {g : Balance → Ledger} (h : ∀ x, L.bals[i]? = some x → P (g x)) :
    P (match L.bals[i]? with
      | none => L
      | some x => g x) := by
  cases hget : L.bals[i]? with
  | none => exact hL
  | some x => exact h x hget

theorem inv_step (L : Ledger) (now : Int) (op : Op) (hi : Inv L) (hop : opNonneg op) : Inv (step L now op) := by
  cases op with
  | open_ =>
    obtain ⟨hA, hL, dA, dL, hn, hsv⟩ := hi
    refine ⟨?_, ?_, dA, dL, ?_, hsv⟩
    · simp [step, sumA, fresh] at *; omega
    · simp [step, sumL, fresh] at *; omega
    · intro x hx
      simp only [step, List.mem_append, List.mem_singleton] at hx
      rcases hx with hx | hx
      · exact hn x hx
      · rw [hx]; simp [fresh]
  | inc i d t =>
    refine onPos hi fun x hget => ?_
    cases hres : increaseBalance L.bank x now d t with
    | error e => exact hi
    | ok r => exact hi.inc hget hres hop
  | dec i d t =>
    refine onPos hi fun x hget => ?_
    cases hres : decreaseBalance L.bank x now d t with
    | error e => exact hi
    | ok r => exact hi.dec hget hres hop
  | wdAll i =>
    refine onPos hi fun x hget => ?_
    cases hres : withdrawAll L.bank x now with
    | error e => exact hi
    | ok r => exact hi.wdAll hget hres
  | repAll i =>
    refine onPos hi fun x hget => ?_
    cases hres : repayAll L.bank x now with
    | error e => exact hi
    | ok r => exact hi.repAll hget hres
  | close i =>
    refine onPos hi fun x hget => ?_
    cases hres : closeBalanceOp L.bank x now with
    | error e => exact hi
    | ok r => exact hi.close hget hres

/-- Over EVERY history of position openings, deposits, repayments, withdrawals,
    borrows, liquidation legs, full withdrawals/repayments and balance closures by any number of
    accounts, the bank's totals equal the sum of all positions plus the non-negative dust that
    closures abandoned. -/
theorem ledger_inv (ops : List (Int × Op)) : ∀ (L : Ledger), Inv L → (∀ p ∈ ops, opNonneg p.2) → Inv (run L ops) :=
  ListL.foldl_keeps (Q := fun p => opNonneg p.2) (fun L p hi hp => inv_step L p.1 p.2 hi hp) ops

/-- the books of a ledger with the invariant are those `accrueInterest` is specified on (C06) -/
theorem Inv.bankOk {L : Ledger} (hi : Inv L) : Mfi.Props.C06.BankOk L.bank :=
  ⟨le_of_lt hi.svpos.1, le_of_lt hi.svpos.2,
    hi.totalA ▸ Int.add_nonneg (List.sum_nonneg (List.forall_mem_map.2 fun z hz => (hi.nonneg z hz).1)) hi.dustA0,
    hi.totalL ▸ Int.add_nonneg (List.sum_nonneg (List.forall_mem_map.2 fun z hz => (hi.nonneg z hz).2)) hi.dustL0⟩

theorem position_le_total {L : Ledger} (hi : Inv L) {x : Balance} (hx : x ∈ L.bals) :
    x.a ≤ L.bank.sa ∧ x.l ≤ L.bank.sl := by
  have hA : x.a ≤ sumA L.bals :=
    List.single_le_sum (List.forall_mem_map.2 fun z hz => (hi.nonneg z hz).1) _ (List.mem_map_of_mem hx)
  have hL : x.l ≤ sumL L.bals :=
    List.single_le_sum (List.forall_mem_map.2 fun z hz => (hi.nonneg z hz).2) _ (List.mem_map_of_mem hx)
  have := hi.totalA; have := hi.totalL; have := hi.dustA0; have := hi.dustL0
  omega

/-- `lending_pool_close_bank` requires both share totals to be
    zero-with-tolerance; in every reachable ledger this forces EVERY account's position in the bank
    below the same threshold — a bank can only be closed when nobody holds more than dust in it. -/
theorem close_bank_only_dust {L : Ledger} (hi : Inv L)
    (hc : isZeroTol L.bank.sa ZERO_AMOUNT_THRESHOLD = true ∧ isZeroTol L.bank.sl ZERO_AMOUNT_THRESHOLD = true) :
    ∀ x ∈ L.bals, x.a < ZERO_AMOUNT_THRESHOLD ∧ x.l < ZERO_AMOUNT_THRESHOLD := by
  intro x hx
  have := position_le_total hi hx
  have habs : ∀ v t : Int, Fx.abs v < t → v < t := by
    intro v t h; unfold Fx.abs at h; split at h <;> omega
  simp only [isZeroTol, decide_eq_true_eq] at hc
  have h1 := habs _ _ hc.1
  have h2 := habs _ _ hc.2
  constructor <;> omega

/-- what the real `lending_pool_close_bank` demands (model Ix.closeBank, diffed against the real instruction through
    dispatch: ix.closebank lines): closable by version, no open position counted on either side, both share totals and the
    unclaimed emissions zero within the tolerance -/
theorem close_bank_requires {b : Bank} (h : Mfi.Ix.closeBank b = .ok ()) :
    b.flags &&& CLOSE_ENABLED_FLAG.toNat ≠ 0 ∧ b.lendCnt = 0 ∧ b.borrowCnt = 0 ∧
    isZeroTol b.sa ZERO_AMOUNT_THRESHOLD = true ∧ isZeroTol b.sl ZERO_AMOUNT_THRESHOLD = true ∧
    isZeroTol b.emissionsRemaining ZERO_AMOUNT_THRESHOLD = true := by
  unfold Mfi.Ix.closeBank at h
  obtain ⟨h1, h⟩ := Res.of_ite_error h
  obtain ⟨h2, h⟩ := Res.of_ite_error h
  obtain ⟨h3, h⟩ := Res.of_ite_error h
  obtain ⟨h4, _⟩ := Res.of_ite_error h
  simp at h2 h3 h4
  exact ⟨h1, h2.1, h2.2, h3.1, h3.2, h4⟩

/-- A bank can only be closed when no account holds more than dust in it: the instruction's own test, in any ledger
    reachable by the operations of this file -/
theorem closed_bank_holds_only_dust {L : Ledger} (hi : Inv L) (h : Mfi.Ix.closeBank L.bank = .ok ()) :
    ∀ x ∈ L.bals, x.a < ZERO_AMOUNT_THRESHOLD ∧ x.l < ZERO_AMOUNT_THRESHOLD :=
  close_bank_only_dust hi ⟨(close_bank_requires h).2.2.2.1, (close_bank_requires h).2.2.2.2.1⟩

/-! ### the numbers of the property text (constants regenerated from the real crates on every run) -/

/-- "sub-0.0001-unit dust": the tolerance every closure tests against is 0.0001 of a native unit to the last bit of
    I80F48 (⌊2^48 / 10000⌋), and a position counts as empty below ONE share -/
theorem dust_is_a_ten_thousandth :
    Mfi.Gen.ZERO_AMOUNT_THRESHOLD * 10000 ≤ Mfi.Fx.ONE ∧ Mfi.Fx.ONE < (Mfi.Gen.ZERO_AMOUNT_THRESHOLD + 1) * 10000 ∧
    Mfi.Gen.EMPTY_BALANCE_THRESHOLD = Mfi.Fx.ONE := by decide

/-- The risk admin's purge of a lender position in a sunset bank closes the position, lowers the bank's
    deposit total by EXACTLY the position's deposit shares, leaves the debt total alone — and is accepted only when the
    position's debt residue is worth less than the 0.0001-unit dust threshold at the current share value (so what it
    abandons in the debt total is dust, like every other closure). -/
theorem purge_spec {b b' : Bank} {x : Balance} {x' : Option Balance} {t : Int}
    (h : Mfi.Ix.purge b (some x) = .ok (b', x', t)) :
    ∃ la, liabAmount b x.l = .ok la ∧ Fx.abs la < ZERO_AMOUNT_THRESHOLD ∧
      b'.sa = b.sa - x.a ∧ b'.sl = b.sl ∧ b'.asv = b.asv ∧ b'.lsv = b.lsv ∧
      x' = some emptyDeactivated ∧ t = 0 := by
  unfold Mfi.Ix.purge at h
  obtain ⟨la, hla, h⟩ := Res.bind_ok h
  obtain ⟨hthr, h⟩ := Res.of_ite_error h
  obtain ⟨xc, hxc, h⟩ := Res.bind_ok h
  obtain ⟨b2, hb2, h⟩ := Res.bind_ok h
  cases h
  obtain ⟨rfl, _, _⟩ := changeAsset_ok hb2
  exact ⟨la, hla, Int.not_le.1 hthr, (Int.sub_eq_add_neg ..).symm, rfl, rfl, rfl, by rw [closeBalance_ok hxc], rfl⟩

/-! ### venue-backed banks (Kamino): what marginfi makes of the venue's answer

  Model Mfi/Model/Venue.lean — the CPI into Kamino is a parameter: the model takes what marginfi reads before and after it
  (obligation collateral, intermediary vault balance) and says which outcomes it accepts, what it books and what it pays.
  Diffed against the REAL kamino_deposit / kamino_withdraw through dispatch by the `venue` family (Kamino itself is played by
  a stand-in in the harness's CPI dispatcher, which can be told to answer a few units off). -/
section venue
open Mfi.Ix Mfi.Venue

theorem withinOne_iff (a e : Int) : withinOne a e = true ↔ (a - e ≤ 1 ∧ e - a ≤ 1) := by
  unfold withinOne; simp

/-- An accepted Kamino deposit books exactly the collateral that arrived in the bank's obligation, that amount
    is within one unit of marginfi's own conversion of the deposit, and the bank total moves by exactly what the position moves -/
theorem kamino_deposit_spec {now expected pre post t : Int} {b b' : Bank} {bal : Option Balance} {x' : Option Balance}
    (h : kaminoDeposit now b bal expected pre post = .ok (b', x', t)) :
    t = post - pre ∧ 0 ≤ t ∧ t - expected ≤ 1 ∧ expected - t ≤ 1 ∧
    ∃ y, x' = some y ∧ b'.sa - b.sa = y.a - (bal.getD (freshBalance b now)).a ∧
                        b'.sl - b.sl = y.l - (bal.getD (freshBalance b now)).l := by
  unfold kaminoDeposit at h
  obtain ⟨hlt, h⟩ := Res.of_ite_error h
  obtain ⟨hw, h⟩ := Res.of_ite_error h
  obtain ⟨hw1, hw2⟩ := (withinOne_iff _ _).1 (by simpa using hw)
  obtain ⟨r, hr, h⟩ := Res.bind_ok h
  cases h
  exact ⟨rfl, by omega, hw1, hw2, r.2, rfl, increase_delta_eq hr⟩

/-- A venue that credits something else than announced is refused: when the obligation's collateral moved by an amount
    two or more units away from marginfi's own conversion, the deposit is not accepted (nothing is booked) -/
theorem kamino_deposit_rejects_misreport {now expected pre post : Int} {b : Bank} {bal : Option Balance}
    (hm : 1 < (post - pre) - expected ∨ 1 < expected - (post - pre)) :
    ∀ o, kaminoDeposit now b bal expected pre post ≠ .ok o := by
  intro o h
  obtain ⟨b', x', t⟩ := o
  obtain ⟨ht, _, h1, h2, _⟩ := kamino_deposit_spec h
  omega

/-- An accepted Kamino withdrawal took exactly the collateral out of the obligation that the position gave up,
    paid the user exactly what arrived in the intermediary vault, and that amount is within one unit of marginfi's own
    conversion of the collateral; a partial withdrawal moves the bank total by what the position moves, a full one removes
    exactly the position's shares -/
theorem kamino_withdraw_spec {now amount obPre obPost vPre vPost : Int} {all : Bool} {expectedOf : Int → Int}
    {b : Bank} {x : Balance} {o : WOut}
    (h : kaminoWithdraw now b (some x) amount all expectedOf obPre obPost vPre vPost = .ok o) :
    obPre - obPost = o.collateral ∧ o.paid = vPost - vPre ∧ 0 ≤ o.paid ∧
    o.paid - expectedOf o.collateral ≤ 1 ∧ expectedOf o.collateral - o.paid ≤ 1 ∧
    (all = false → o.collateral = amount ∧ o.bank.sa - b.sa = o.bal.a - x.a ∧ o.bank.sl - b.sl = o.bal.l - x.l) ∧
    (all = true → o.bank.sa = b.sa - x.a ∧ o.bal.a = 0 ∧ o.bal.l = 0) := by
  unfold kaminoWithdraw at h
  obtain ⟨⟨b1, x1, c⟩, hstep, h⟩ := Res.bind_ok h
  dsimp only at h
  obtain ⟨h1, h⟩ := Res.of_ite_error h
  obtain ⟨hc, h⟩ := Res.of_ite_error h
  obtain ⟨h3, h⟩ := Res.of_ite_error h
  obtain ⟨hw, h⟩ := Res.of_ite_error h
  obtain ⟨hw1, hw2⟩ := (withinOne_iff _ _).1 (by simpa using hw)
  cases h
  refine ⟨Decidable.not_not.1 hc, rfl, by show (0 : Int) ≤ vPost - vPre; omega, hw1, hw2, ?_, ?_⟩
  · rintro rfl
    obtain ⟨p, hd, e⟩ := Res.map_ok hstep
    cases e
    exact ⟨rfl, decrease_delta_eq hd⟩
  · rintro rfl
    obtain ⟨e1, _, e3, e4, _⟩ := withdraw_all_delta hstep
    exact ⟨e1, e3, e4⟩

/-- a venue that takes another amount of collateral than asked is refused -/
theorem kamino_withdraw_rejects_wrong_collateral {now amount obPre obPost vPre vPost : Int} {all : Bool}
    {expectedOf : Int → Int} {b : Bank} {x : Balance} {o : WOut}
    (h : kaminoWithdraw now b (some x) amount all expectedOf obPre obPost vPre vPost = .ok o) (hna : all = false) :
    obPre - obPost = amount := by
  obtain ⟨h1, _, _, _, _, h6, _⟩ := kamino_withdraw_spec h
  rw [h1, (h6 hna).1]

end venue

section whole_instructions
open Mfi Mfi.World Mfi.Gen Mfi.Gen.Acc

/-! ### whole instructions, whole protocol (Mfi/Model/World.lean)

The ledger theorems above speak about wrapper operations on one bank. These lift them to the five WHOLE user instructions —
account checks, gates, accrual, `find_or_create` on the 16-slot array, the write-back, `sort_balances`, the health check —
executed by any signers on any number of margin accounts and banks in any order. -/

/-- A successful whole instruction changes the operated bank's share totals by exactly
    what the account's slot array gains or loses in that bank — plus, for a complete withdrawal / complete repayment /
    balance closure, the other-side residue of the closed position, which is abandoned — and leaves the account's holdings
    in every other bank untouched, although it may have opened a slot, rewritten one and re-sorted the whole array. -/
theorem world_instruction_ledger_step (c : Ctx) :
    (∀ amt up o, World.deposit c amt up = .ok o → LedgerStep c o 0 0) ∧
    (∀ amt o, World.borrow c amt = .ok o → LedgerStep c o 0 0) ∧
    (∀ amt all o, World.withdraw c amt all = .ok o → LedgerStep c o 0 (if all then (slotOf c.a c.b.key).l else 0)) ∧
    (∀ amt all o, World.repay c amt all = .ok o → LedgerStep c o (if all then (slotOf c.a c.b.key).a else 0) 0) ∧
    (∀ o, World.closeBalance c = .ok o → LedgerStep c o (slotOf c.a c.b.key).a (slotOf c.a c.b.key).l) :=
  ⟨fun _ _ _ h => deposit_ledger h, fun _ _ h => borrow_ledger h, fun _ _ _ h => withdraw_ledger h,
   fun _ _ _ h => repay_ledger h, fun _ h => close_ledger h⟩

/-- A successful classic liquidation moves each of the two banks' share
    totals by exactly what the liquidator's and the liquidatee's slot arrays gain or lose in that bank (four balance moves on
    two arrays, slots opened on the liquidator's side, the liquidator's array re-sorted), abandons nothing and touches neither
    account's holdings in any third bank; a successful bankruptcy settlement moves the bank's totals by exactly what the
    bankrupt position moves (the loss socialisation changes the deposit SHARE VALUE, never a share count). -/
theorem world_liquidation_and_bankruptcy_ledger_step :
    (∀ (c : LiqCtx) amount o, World.liquidate c amount = .ok o → LedgerStep2 c o) ∧
    (∀ (c : Ctx) available o, World.bankruptcy c available = .ok o → LedgerStepG c.b.key c.a.slots o.slots c.b.books o.books 0 0) :=
  ⟨fun _ _ _ h => liquidate_ledger h, fun _ _ _ h => bankruptcy_ledger h⟩

/-- Over EVERY history of whole instructions (deposits, withdrawals, borrows, repayments, balance
    closures, classic liquidations between any two accounts over any two banks, bankruptcy settlements — by any signer on any
    account and bank, with any arguments, refused ones rolled back, the clock advancing in between) in a world of any number of accounts and banks with distinct keys, every bank's share totals equal the sum
    over all accounts of the shares their slot arrays hold in it, plus the dust that closures abandoned there. -/
theorem world_ledger_history (w : WState) (ops : List WOp) (h : WInv w) : WInv (w.run ops) := run_inv ops w h

/-- The same over every sequence of TRANSACTIONS of the world state machine (whole instructions and
    flash-loan brackets, executed atomically: a refused instruction rolls its whole transaction back): inside a flash loan the
    health checks are skipped, the bookkeeping is not -/
theorem world_ledger_over_transactions (w : WState) (txs : List (List TOp)) (h : WInv w) : WInv (w.runTxs txs) :=
  runTxs_keeps (stepIn_keeps step_inv setAcct_inv) txs w h

/-- an empty world satisfies the invariant (so does every world reached from it: non-vacuity of the history theorem) -/
theorem world_ledger_initial (now : Int) (g : GroupV) (banks : List WBank) (n : Nat)
    (hk : ∀ (i j : Nat) (bi bj : WBank), banks[i]? = some bi → banks[j]? = some bj → i ≠ j → bi.v.key ≠ bj.v.key)
    (h0 : ∀ b ∈ banks, b.v.books.sa = 0 ∧ b.v.books.sl = 0) (group authority : Nat) :
    WInv { now, g, banks, dustA := fun _ => 0, dustL := fun _ => 0,
           accts := List.replicate n { key := 0, group, authority, flags := 0, slots := List.replicate 16 Account.emptySlot } } := by
  have hz : ∀ k, posA k (List.replicate 16 Account.emptySlot) = 0 ∧ posL k (List.replicate 16 Account.emptySlot) = 0 := by
    intro k; constructor <;> simp [posA, posL, Account.emptySlot, List.replicate, List.filter]
  refine ⟨hk, ?_, ?_⟩
  · intro j b hb
    have hm := List.mem_of_getElem? hb
    rw [(h0 b hm).1]
    simp only [List.map_replicate, (hz b.v.key).1, List.sum_replicate]
    simp
  · intro j b hb
    have hm := List.mem_of_getElem? hb
    rw [(h0 b hm).2]
    simp only [List.map_replicate, (hz b.v.key).2, List.sum_replicate]
    simp

end whole_instructions

section whole_instructions
open Mfi Mfi.Fx Mfi.Bank Mfi.Gen Mfi.Venue Mfi.Ix

/-- An accepted Solend deposit books exactly the collateral that arrived in the bank's obligation, within
    one unit of marginfi's own conversion, and the bank total moves by exactly what the position moves -/
theorem solend_deposit_spec {now expected pre post t : Int} {b b' : Bank} {bal : Option Balance} {x' : Option Balance}
    (h : solendDeposit now b bal expected pre post = .ok (b', x', t)) :
    t = post - pre ∧ 0 ≤ t ∧ t - expected ≤ 1 ∧ expected - t ≤ 1 ∧
    ∃ y, x' = some y ∧ b'.sa - b.sa = y.a - (bal.getD (freshBalance b now)).a ∧
                        b'.sl - b.sl = y.l - (bal.getD (freshBalance b now)).l := by
  -- `solend_deposit` is `kamino_deposit` with another error code: what it accepts, the Kamino handler accepts with the same result
  refine kamino_deposit_spec (?_ : kaminoDeposit now b bal expected pre post = _)
  unfold solendDeposit at h
  obtain ⟨hlt, h⟩ := Res.of_ite_error h
  obtain ⟨hw, h⟩ := Res.of_ite_error h
  unfold kaminoDeposit
  rw [if_neg hlt, if_neg hw]
  exact h

/-- An accepted Solend withdrawal debits the position by the collateral given up, `c`, while the
    obligation lost between `c - 1` and `c + 1` — the handler tolerates one unit either way, so the books and the
    obligation can drift apart by one unit of collateral per withdrawal (the backing of a Solend bank is exact only up to
    that tolerance); the user is paid exactly what arrived in the intermediary vault, within one unit of marginfi's own
    conversion of `c` -/
theorem solend_withdraw_spec {now amount obPre obPost vPre vPost : Int} {all : Bool} {expectedOf : Int → Int}
    {b : Bank} {x : Balance} {o : WOut}
    (h : solendWithdraw now b (some x) amount all expectedOf obPre obPost vPre vPost = .ok o) :
    (obPre - obPost) - o.collateral ≤ 1 ∧ o.collateral - (obPre - obPost) ≤ 1 ∧
    o.paid = vPost - vPre ∧ o.paid - expectedOf o.collateral ≤ 1 ∧ expectedOf o.collateral - o.paid ≤ 1 ∧
    (all = false → o.collateral = amount ∧ o.bank.sa - b.sa = o.bal.a - x.a) ∧
    (all = true → o.bank.sa = b.sa - x.a ∧ o.bal.a = 0) := by
  unfold solendWithdraw at h
  obtain ⟨⟨b1, x1, c⟩, hstep, h⟩ := Res.bind_ok h
  dsimp only at h
  obtain ⟨h1, h⟩ := Res.of_ite_error h
  obtain ⟨hc, h⟩ := Res.of_ite_error h
  obtain ⟨h3, h⟩ := Res.of_ite_error h
  obtain ⟨hw, h⟩ := Res.of_ite_error h
  obtain ⟨a1, a2⟩ := (withinOne_iff _ _).1 (by simpa using hc)
  obtain ⟨a3, a4⟩ := (withinOne_iff _ _).1 (by simpa using hw)
  cases h
  refine ⟨a1, a2, rfl, a3, a4, ?_, ?_⟩
  · rintro rfl
    obtain ⟨p, hd, e⟩ := Res.map_ok hstep
    cases e
    exact ⟨rfl, (decrease_delta_eq hd).1⟩
  · rintro rfl
    obtain ⟨e1, _, e3, _⟩ := withdraw_all_delta hstep
    exact ⟨e1, e3⟩

/-- An accepted Drift deposit books exactly the scaled balance the bank's Drift user gained, which is exactly
    what Drift's own increment formula announces for the amount; the bank total moves by what the position moves -/
theorem drift_deposit_spec {now amount dec cum pre post t : Int} {b b' : Bank} {bal : Option Balance} {x' : Option Balance}
    (h : driftDeposit now b bal amount dec cum pre post = .ok (b', x', t)) :
    t = post - pre ∧ Integr.scaledBalanceIncrement dec cum amount = some t ∧
    ∃ y, x' = some y ∧ b'.sa - b.sa = y.a - (bal.getD (freshBalance b now)).a ∧
                        b'.sl - b.sl = y.l - (bal.getD (freshBalance b now)).l := by
  unfold driftDeposit at h
  revert h
  cases hexp : Integr.scaledBalanceIncrement dec cum amount with
  | none => intro h; cases h
  | some expected =>
    intro h
    obtain ⟨hlt, h⟩ := Res.of_ite_error h
    obtain ⟨heq, h⟩ := Res.of_ite_error h
    obtain ⟨r, hr, h⟩ := Res.bind_ok h
    cases h
    exact ⟨rfl, Decidable.not_not.1 heq ▸ rfl, r.2, rfl, increase_delta_eq hr⟩

end whole_instructions

end Mfi.Props.C02
