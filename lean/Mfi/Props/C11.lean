/-
  C11 — Flash loans are bracketed: health is enforced before the transaction ends.

  Theorems about Mfi/Model/Tx.lean: `canStartFlashloan` = check_flashloan_can_start (diffed against the REAL
  function by the `tx` family on generated transaction shapes), and whole transactions (`run`) in which every
  non-structural handler check is an arbitrary oracle.
-/
import Mfi.Lemmas.AccL
import Mfi.Lemmas.TxLem
import Mfi.Lemmas.WorldTxL
import Mfi.Props.C04
namespace Mfi.Props.C11
open Mfi Mfi.Tx Mfi.Gen

/-- A flash loan starts only at top level, only when the instruction it
    names lies LATER in the same transaction, is this program's end_flashloan and targets the same account,
    and the account is not disabled, frozen, in receivership or already in a flash loan (no nesting). -/
theorem start_requires_matching_end {ixs : List Ix} {cur e key : Nat} {f : Flags}
    (h : canStartFlashloan ixs cur 1 e key f = .ok ()) :
    cur < e ∧ e < ixs.length ∧ EndAt ixs e key ∧
    f.disabled = false ∧ f.flash = false ∧ f.recv = false ∧ f.frozen = false := by
  obtain ⟨_, h1, h2, _, h4⟩ := canStart_ok h
  refine ⟨h1, ?_, h2, h4⟩
  obtain ⟨x, hx, _⟩ := h2
  rcases Nat.lt_or_ge e ixs.length with hl | hl
  · exact hl
  · rw [List.getElem?_eq_none hl] at hx; cases hx

/-- via CPI (stack height above the transaction level) a flash loan never starts -/
theorem start_not_via_cpi (ixs : List Ix) (cur stack e key : Nat) (f : Flags) (hs : stack ≠ 1) :
    canStartFlashloan ixs cur stack e key f ≠ .ok () := fun h => hs (canStart_ok h).1

/-- invariant: a set flash-loan flag is backed by an end_flashloan for that account that is still ahead -/
def FlashInv (ixs : List Ix) (k : Nat) (st : State) : Prop :=
  ∀ b, (st b).flash = true → ∃ e, k ≤ e ∧ EndAt ixs e b

theorem runAux_flash {ixs : List Ix} {orc : Nat → Bool} :
    ∀ (suf pre post : List Ix) (k : Nat) (st st' : State), ixs = pre ++ suf ++ post → pre.length = k →
      runAux ixs orc suf k st = .ok st' → FlashInv ixs k st → FlashInv ixs (k + suf.length) st' :=
  runAux_ind (FlashInv ixs) fun k ix _ _ hget he hi b hb => by
    rcases exec_flash he b hb with ⟨h0, hne⟩ | ⟨e, hlt, hend⟩
    · obtain ⟨e, hke, hend⟩ := hi b h0
      refine ⟨e, Nat.lt_of_le_of_ne hke ?_, hend⟩
      -- the end that backs the flag is not this instruction: this one is not `b`'s end
      rintro rfl
      obtain ⟨x, hx, xp, xd, xa⟩ := hend
      cases hget.symm.trans hx
      exact hne ⟨xp, xd, xa⟩
    · exact ⟨e, hlt, hend⟩

/-- Whatever the instructions of a transaction are and whatever the
    non-structural checks decide, if the transaction succeeds and no account was flagged in-flash-loan
    before it, none is afterwards. -/
theorem flashloan_never_survives (ixs : List Ix) (orc : Nat → Bool) (st0 st' : State)
    (h0 : ∀ a, (st0 a).flash = false) (hrun : run ixs orc st0 = .ok st') : ∀ a, (st' a).flash = false := by
  intro a
  cases hfa : (st' a).flash with
  | false => rfl
  | true =>
    exfalso
    have inv0 : FlashInv ixs 0 st0 := by intro b hb; rw [h0 b] at hb; cases hb
    obtain ⟨e, hle, x, hx, _⟩ := run_ind runAux_flash hrun inv0 a hfa
    rw [List.getElem?_eq_none hle] at hx
    cases hx

theorem runAux_split {ixs : List Ix} {orc : Nat → Bool} :
    ∀ (l1 l2 : List Ix) (k : Nat) (st st' : State), runAux ixs orc (l1 ++ l2) k st = .ok st' →
      ∃ st1, runAux ixs orc l1 k st = .ok st1 ∧ runAux ixs orc l2 (k + l1.length) st1 = .ok st' :=
  fun l1 l2 k st _ h => Res.bind_ok (runAux_append l1 l2 k st ▸ h)

/-- In a successful transaction every end_flashloan instruction ran its full
    initial-margin check (the oracle of that instruction said yes), on an account that is not disabled,
    frozen or in receivership, and cleared the flag. -/
theorem end_enforces_health (ixs : List Ix) (orc : Nat → Bool) (st0 st' : State) (j b : Nat) (x : Ix)
    (hrun : run ixs orc st0 = .ok st') (hx : ixs[j]? = some x) (xp : x.prog = MRGN)
    (xd : x.disc = some D_END_FLASH) (xa : x.acct0 = some b) :
    orc j = true ∧ ∃ s1 s2, exec ixs orc j x s1 = .ok s2 ∧ (s1 b).disabled = false ∧ (s1 b).recv = false ∧
      (s1 b).frozen = false ∧ (s2 b).flash = false := by
  obtain ⟨s1, s2, -, he, -⟩ := run_at (I := fun _ _ => True) (runAux_ind _ fun _ _ _ _ _ _ _ => trivial) hrun trivial hx
  have hnot : ∀ {d : Nat}, x.disc = some d → d ≠ D_END_FLASH → False :=
    fun hd hne => hne (Option.some.inj (hd.symm.trans xd))
  cases exec_ok he with
  | foreign hn => exact absurd xp hn
  | @endFlash a _ _ ha h1 h2 h3 h4 =>
    cases xa.symm.trans ha
    exact ⟨h4, s1, _, he, h1, h2, h3, by rw [upd_same]⟩
  | startRecv _ hd _ hs | endRecv _ hd _ hs => exact (hnot hd (by rcases hs with rfl | rfl <;> decide)).elim
  | startFlash _ hd | transfer _ hd => exact (hnot hd (by decide)).elim
  | other _ hd hnb | otherOn _ _ _ hd hnb => exact (hnot hd (by rintro rfl; cases hnb)).elim

/-! ### the handler side: tables regenerated from the source -/

section tables
open Mfi.Gen.Skel

/-- only start_flashloan sets ACCOUNT_IN_FLASHLOAN and only end_flashloan clears it -/
theorem flashloan_flag_writers :
    ∀ w ∈ TxL.flagWrites, w.2.2 = TxL.Flag.inFlashloan →
      (w.1 = .fn_lending_account_start_flashloan ∧ w.2.1 = true) ∨
      (w.1 = .fn_lending_account_end_flashloan ∧ w.2.1 = false) := by decide

/-- start: the can-start check precedes the flag; end: no CPI, refuses disabled / in-receivership / frozen
    accounts, clears the flag and THEN runs the initial-margin check as its last step -/
theorem handler_shape :
    start_flashloan = [.callCanStart, .setFlag .inFlashloan] ∧
    end_flashloan = [.notCpi, .acctFlag .disabled, .acctFlag .inReceivership, .acctFlag .frozen,
                     .unsetFlag .inFlashloan, .healthInit] ∧
    check_flashloan_can_start = [.notCpiSysvar, .notCpi, .acctFlag .disabled, .acctFlag .inFlashloan,
                                 .acctFlag .inReceivership, .acctFlag .frozen] := by decide

/-- both bracket instructions need the account authority's signature -/
theorem bracket_signers :
    ∀ s ∈ [Acc.S.LendingAccountStartFlashloan, .LendingAccountEndFlashloan],
      Acc.hasOneOf s .f_marginfi_account .f_authority = true ∧ Acc.isSigner s .f_authority = true := by decide

/-- liquidation (classic and receivership) and bankruptcy are impossible while the flag is set:
    the receivership start/end constraints require the flag clear, and the risk engine's liquidation
    and bankruptcy assessments refuse an account in a flash loan (Mfi.Gen.Skel: the handlers call them) -/
theorem no_liquidation_in_flashloan :
    (∀ s ∈ [Acc.S.StartLiquidation, .StartDeleverage, .EndLiquidation, .EndDeleverage],
      Acc.hasCons s .f_marginfi_account (.flagClear .f_marginfi_account .fl_ACCOUNT_IN_FLASHLOAN) = true) ∧
    liquidate.contains .healthPreLiq = true ∧ handle_bankruptcy.contains .checkBankrupt = true ∧
    re_pre_liquidation.head? = some (.acctFlag .inFlashloan) ∧
    re_post_liquidation.head? = some (.acctFlag .inFlashloan) ∧
    re_check_bankrupt.head? = some (.acctFlag .inFlashloan) := by decide

/-- the only place where the initial-margin check is skipped is `check_account_init_health` itself, and
    only on the in-flash-loan flag -/
theorem health_skipped_only_in_flashloan : re_check_init_health = [.acctFlag .inFlashloan] := by decide

end tables

def demoTx : List Ix :=
  [ { prog := MRGN, disc := some D_START_FLASH, acct0 := some 3, arg := 2 },
    { prog := MRGN, disc := some 15, acct0 := some 3, arg := 0 },
    { prog := MRGN, disc := some D_END_FLASH, acct0 := some 3, arg := 0 } ]

example : canStartFlashloan demoTx 0 1 2 3 ⟨false, false, false, false⟩ = .ok () := by rfl
example : (run demoTx (fun i => decide (i < 1000)) (fun _ => ⟨false, false, false, false⟩)).isOk = true := by decide

section whole_instructions
open Mfi Mfi.World Mfi.Gen Mfi.Gen.Acc

theorem clear_flag (flags : Nat) : hasFlag (flags &&& (Nat.xor ACCOUNT_IN_FLASHLOAN.toNat (2 ^ 64 - 1))) ACCOUNT_IN_FLASHLOAN = false :=
  (hasFlag_clear FLASH_bit FLASH_bit (by decide) flags).trans (Bool.and_false _)

/-- `lending_account_end_flashloan` goes through only when signed by the account's
    authority, at the top level of the transaction (not via CPI), on an account that is neither disabled, in receivership
    nor frozen; it leaves the in-flash-loan flag CLEARED, and the portfolio as stored — every active slot, in slot order —
    passes the full initial-margin check, which cannot be skipped because the flag is cleared before it runs. -/
theorem world_end_flashloan_enforces_health {c : Ctx} {stack f : Nat} (h : World.endFlashloan c stack = .ok f) :
    c.a.authority = c.signer ∧ stack = 1 ∧
    flag c ACCOUNT_DISABLED = false ∧ flag c ACCOUNT_IN_RECEIVERSHIP = false ∧ flag c ACCOUNT_FROZEN = false ∧
    hasFlag f ACCOUNT_IN_FLASHLOAN = false ∧
    ∃ ps, portfolio c c.a.slots c.b.books = .ok ps ∧ Risk.checkInitHealth ps = .ok () := by
  obtain ⟨ha, hs, hd, hr, hz, hps, rfl⟩ := endFlashloan_ok h
  exact ⟨ha, hs, hd, hr, hz, clear_flag _, hps⟩

/-! ### flash loans inside whole TRANSACTIONS of the world state machine (Mfi/Model/WorldTx.lean)

A transaction is any list of whole instructions (`World.WOp`: deposit, withdraw, borrow, repay, close, liquidate, bankruptcy,
transfer, the cranks) and of the two flash-loan instructions, by any signers on any accounts and banks with any arguments,
executed in order; one refused instruction rolls the whole transaction back. The health checks inside are the risk-engine
model's own (not an oracle). -/

/-- `lending_account_start_flashloan` goes through only when signed by the account's authority,
    from a position BEFORE `end_index`, with a top-level marginfi `lending_account_end_flashloan` for THIS account at
    `end_index`, on an account that is neither disabled, already in a flash loan, in receivership nor frozen; all it does is
    set the in-flash-loan flag. -/
theorem world_start_flashloan_spec {c : Ctx} {cur endIdx : Nat} {endIx : Option Bool} {f : Nat}
    (h : startFlashloan c cur endIdx endIx = .ok f) :
    c.a.authority = c.signer ∧ cur < endIdx ∧ endIx = some true ∧
    flag c ACCOUNT_DISABLED = false ∧ flag c ACCOUNT_IN_FLASHLOAN = false ∧ flag c ACCOUNT_IN_RECEIVERSHIP = false ∧
    flag c ACCOUNT_FROZEN = false ∧ f = c.a.flags ||| ACCOUNT_IN_FLASHLOAN.toNat :=
  startFlashloan_ok h

/-- no whole instruction other than the start raises an in-flash-loan flag: every account flagged after it was flagged before -/
theorem world_instruction_raises_no_flash_flag (w : WState) (op : WOp) : NoNewFlash w (w.step op) := step_noNew w op

/-- A COMMITTED transaction of the world state machine, whatever it contains, leaves no account
    flagged in-flash-loan (when none was before it): every start named an end for the same account further down, every other
    instruction leaves the flags of the accounts it does not end as they are, and a committed transaction ran that end. -/
theorem world_tx_no_flash_survives {w w' : WState} {tx : List TOp} (h : w.runTx tx = some w')
    (h0 : ∀ (k : Nat) (a : AcctV), w.accts[k]? = some a → inFlash a = false) :
    ∀ (k : Nat) (a : AcctV), w'.accts[k]? = some a → inFlash a = false :=
  runTx_noFlash h h0

/-- And so over every sequence of transactions, committed or rolled back: between transactions nobody is in a flash loan -/
theorem world_txs_no_flash_survives (txs : List (List TOp)) (w : WState)
    (h0 : ∀ (k : Nat) (a : AcctV), w.accts[k]? = some a → inFlash a = false) :
    ∀ (k : Nat) (a : AcctV), (w.runTxs txs).accts[k]? = some a → inFlash a = false :=
  runTxs_ind (P := fun w => ∀ (k : Nat) (a : AcctV), w.accts[k]? = some a → inFlash a = false) (fun _ _ _ h => runTx_noFlash h) txs w h0

/-- In a committed transaction every `lending_account_end_flashloan` ran, and the state
    it ran on — everything the instructions inside the bracket did to the account included — passed the FULL initial-margin
    check on the account's whole portfolio with the flag already cleared, signed by the account's authority. -/
theorem world_tx_every_end_enforces_health {w w' : WState} {tx : List TOp} (h : w.runTx tx = some w')
    {j k s : Nat} (hj : tx[j]? = some (.endFlash k s)) :
    ∃ (wj : WState) (a : AcctV), w.before tx j = some wj ∧ wj.accts[k]? = some a ∧ a.authority = s ∧
      ∃ ps, portfolio (wj.actx a s) a.slots noBank.books = .ok ps ∧ Risk.checkInitHealth ps = .ok () := by
  obtain ⟨wj, a, f, hbj, ha, hf⟩ := tx_endflash_ran h hj
  obtain ⟨h1, _, _, _, _, _, ps, hps, hh⟩ := world_end_flashloan_enforces_health hf
  exact ⟨wj, a, hbj, ha, h1, ps, hps, hh⟩

theorem initHealth_unflagged {c : Ctx} {slots : List Account.Slot} {books : Bank.Bank} (hf : flag c ACCOUNT_IN_FLASHLOAN = false)
    (h : initHealth c slots books = .ok ()) : ∃ ps, portfolio c slots books = .ok ps ∧ Risk.checkInitHealth ps = .ok () :=
  Mfi.Props.C04.initHealth_ok hf h

/-- Every borrow of a committed transaction (started with nobody in a flash loan) is backed by a
    passed initial-margin check of the risk engine on the borrower's whole portfolio — the borrow's own, on the state the borrow
    left, when the account was not in a flash loan; otherwise the one of the account's `end_flashloan` FURTHER DOWN THE SAME
    TRANSACTION, on the state the whole bracket left. There is no third case: health is enforced before the transaction ends. -/
theorem world_tx_borrow_is_backed {w w' : WState} {tx : List TOp} (h : w.runTx tx = some w')
    (h0 : ∀ (k : Nat) (a : AcctV), w.accts[k]? = some a → inFlash a = false)
    {i ai bi signer : Nat} {amount : Int} (hi : tx[i]? = some (.ix (.borrow ai bi signer amount))) :
    (∃ (wi : WState) (a : AcctV) (b : WBank) (o : Out) (ps : List Risk.Pos), w.before tx i = some wi ∧ wi.accts[ai]? = some a ∧ wi.banks[bi]? = some b ∧
        borrow (wi.ctx a b signer b.v.liquidityVault 0) amount = .ok o ∧
        portfolio (wi.ctx a b signer b.v.liquidityVault 0) o.slots o.books = .ok ps ∧ Risk.checkInitHealth ps = .ok ()) ∨
    (∃ (j s : Nat) (wj : WState) (a : AcctV) (ps : List Risk.Pos), i < j ∧ tx[j]? = some (.endFlash ai s) ∧ w.before tx j = some wj ∧ wj.accts[ai]? = some a ∧
        portfolio (wj.actx a s) a.slots noBank.books = .ok ps ∧ Risk.checkInitHealth ps = .ok ()) := by
  obtain ⟨wi, wi', hbi, hst, hend⟩ := runTx_at_flash h h0 hi (fun _ _ e => by cases e)
  obtain ⟨a, b, o, ha, hb, ho⟩ := accepted_user (.borrow ..) (stepIn_accepted hst)
  cases hfa : inFlash a with
  | false =>
    -- not in a flash loan: the borrow's own check was not skipped
    obtain ⟨ps, hps, hc⟩ := initHealth_unflagged (c := wi.ctx a b signer b.v.liquidityVault 0) hfa (borrow_ok ho).health
    exact Or.inl ⟨wi, a, b, o, ps, hbi, ha, hb, ho, hps, hc⟩
  | true => exact Or.inr (hend ai a ha hfa)

/-- Every classic liquidation of a committed transaction (started with nobody in a flash loan)
    leaves the LIQUIDATOR backed by a passed initial-margin check: its own, on the liquidator's portfolio as the liquidation left
    it, when the liquidator was not in a flash loan; otherwise the one of the liquidator's `end_flashloan` further down the same
    transaction. The liquidatee is never inside a flash loan (`C05.world_liquidate_spec`: liquidation is impossible while the
    flag is set). -/
theorem world_tx_liquidator_is_backed {w w' : WState} {tx : List TOp} (h : w.runTx tx = some w')
    (h0 : ∀ (k : Nat) (a : AcctV), w.accts[k]? = some a → inFlash a = false)
    {i qi ei abi lbi signer : Nat} {amount : Int} (hi : tx[i]? = some (.ix (.liquidate qi ei abi lbi signer amount))) :
    ∃ (wi : WState) (lq le : AcctV) (ab lb : WBank) (o : LiqOutW), w.before tx i = some wi ∧ wi.accts[qi]? = some lq ∧ wi.accts[ei]? = some le ∧
      wi.banks[abi]? = some ab ∧ wi.banks[lbi]? = some lb ∧ liquidate (wi.liqCtx lq le ab lb signer) amount = .ok o ∧
      hasFlag le.flags ACCOUNT_IN_FLASHLOAN = false ∧
      ((∃ qs, portfolio2 (wi.liqCtx lq le ab lb signer).risk o.lqSlots ab.v.key o.assetBooks lb.v.key o.liabBooks = .ok qs ∧
          Risk.checkInitHealth qs = .ok ()) ∨
       (∃ (j s : Nat) (wj : WState) (a : AcctV) (ps : List Risk.Pos), i < j ∧ tx[j]? = some (.endFlash qi s) ∧ w.before tx j = some wj ∧ wj.accts[qi]? = some a ∧
          portfolio (wj.actx a s) a.slots noBank.books = .ok ps ∧ Risk.checkInitHealth ps = .ok ())) := by
  obtain ⟨wi, wi', hbi, hst, hend⟩ := runTx_at_flash h h0 hi (fun _ _ e => by cases e)
  cases stepIn_accepted hst with
  | user hu => cases hu
  | liquidate _ _ hq he hab hlb ho =>
    obtain ⟨t, k⟩ := liquidate_ok ho
    exact ⟨wi, _, _, _, _, _, hbi, hq, he, hab, hlb, ho, k.leNoFlash, k.lqHealth.symm.imp_right (hend qi _ hq)⟩

/-- As whole instructions — a classic liquidation whose LIQUIDATEE
    carries the in-flash-loan flag is refused, and so is a bankruptcy settlement of such an account, whoever signs and whatever
    the portfolio looks like (inside the bracket its health is unenforced, so neither verdict may be taken on it) -/
theorem world_no_liquidation_or_bankruptcy_inside_a_flash_loan :
    (∀ (c : LiqCtx) (amount : Int), hasFlag c.le.flags ACCOUNT_IN_FLASHLOAN = true → (World.liquidate c amount).isOk = false) ∧
    (∀ (c : Ctx) (available : Int), hasFlag c.a.flags ACCOUNT_IN_FLASHLOAN = true → (World.bankruptcy c available).isOk = false) := by
  constructor
  · refine fun c amount hf => Res.isOk_false fun o hr => ?_
    obtain ⟨t, k⟩ := liquidate_ok hr
    exact Bool.noConfusion (hf.symm.trans k.leNoFlash)
  · exact fun c available hf => Res.isOk_false fun o hr => Bool.noConfusion (hf.symm.trans (bankruptcy_ok hr).noFlash)

/-- The same (`world_tx_borrow_is_backed`) for every withdrawal of a committed transaction made outside receivership (inside
    receivership the bracket's own end enforces health: C10) -/
theorem world_tx_withdraw_is_backed {w w' : WState} {tx : List TOp} (h : w.runTx tx = some w')
    (h0 : ∀ (k : Nat) (a : AcctV), w.accts[k]? = some a → inFlash a = false)
    {i ai bi signer : Nat} {amount vault : Int} {all : Bool} (hi : tx[i]? = some (.ix (.withdraw ai bi signer amount all vault))) :
    (∃ (wi : WState) (a : AcctV) (b : WBank) (o : Out), w.before tx i = some wi ∧ wi.accts[ai]? = some a ∧ wi.banks[bi]? = some b ∧
        withdraw (wi.ctx a b signer b.v.liquidityVault vault) amount all = .ok o ∧
        (hasFlag a.flags ACCOUNT_IN_RECEIVERSHIP = true ∨
          ∃ ps, portfolio (wi.ctx a b signer b.v.liquidityVault vault) o.slots o.books = .ok ps ∧ Risk.checkInitHealth ps = .ok ())) ∨
    (∃ (j s : Nat) (wj : WState) (a : AcctV) (ps : List Risk.Pos), i < j ∧ tx[j]? = some (.endFlash ai s) ∧ w.before tx j = some wj ∧ wj.accts[ai]? = some a ∧
        portfolio (wj.actx a s) a.slots noBank.books = .ok ps ∧ Risk.checkInitHealth ps = .ok ()) := by
  obtain ⟨wi, wi', hbi, hst, hend⟩ := runTx_at_flash h h0 hi (fun _ _ e => by cases e)
  obtain ⟨a, b, o, ha, hb, ho⟩ := accepted_user (.withdraw ..) (stepIn_accepted hst)
  cases hfa : inFlash a with
  | false =>
    refine Or.inl ⟨wi, a, b, o, hbi, ha, hb, ho, ?_⟩
    cases hr : flag (wi.ctx a b signer b.v.liquidityVault vault) ACCOUNT_IN_RECEIVERSHIP with
    | true => exact Or.inl hr
    | false => exact Or.inr (Mfi.Props.C04.world_withdraw_leaves_healthy ho hfa hr)
  | true => exact Or.inr (hend ai a ha hfa)

/-- a small world: one account without positions, no banks -/
def demoWorld : WState :=
  { now := 100,
    g := { key := 1, admin := 2, riskAdmin := 3, paused := false, progFeeRate := 0, window := { dailyLimit := 0, withdrawnToday := 0, lastReset := 0 } },
    accts := [{ key := 5, group := 1, authority := 7, flags := 0, slots := List.replicate 16 Account.emptySlot }],
    banks := [], dustA := fun _ => 0, dustL := fun _ => 0 }

/-- a bracket commits; a start without its end, an end before its start, a start by someone else do not (the hypotheses of the
    transaction theorems are satisfiable, and the refusals are real) -/
example : (demoWorld.runTx [.startFlash 0 7 1, .endFlash 0 7]).isSome = true := by decide
example : (demoWorld.runTx [.startFlash 0 7 1]).isSome = false := by decide
example : (demoWorld.runTx [.endFlash 0 7, .startFlash 0 7 0]).isSome = false := by decide
example : (demoWorld.runTx [.startFlash 0 8 1, .endFlash 0 7]).isSome = false := by decide
example : (demoWorld.runTx [.startFlash 0 7 2, .ix (.tick 0), .endFlash 0 7]).isSome = true := by decide

/-- `WState.before` names real states: the end of that bracket finds the account flagged in-flash-loan, the start does not -/
example : ((demoWorld.before [.startFlash 0 7 1, .endFlash 0 7] 1).bind (fun w => w.accts[0]?.map inFlash)) = some true := by decide
example : ((demoWorld.before [.startFlash 0 7 1, .endFlash 0 7] 0).bind (fun w => w.accts[0]?.map inFlash)) = some false := by decide

end whole_instructions

end Mfi.Props.C11
