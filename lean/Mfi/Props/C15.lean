/-
  C15 — Emergency pause is bounded: users always regain access within a fixed time.

  Statements are about the model in Mfi/Model/Panic.lean, whose step functions are diffed
  against the real PanicState / PanicStateCache code by the `panic` correspondence family.
  Time: Solana's clock is non-negative and non-decreasing; a history is a list of
  (seconds elapsed, operation). Timestamps stay ≤ LIM = 2^62, so that the code's `saturating_add`
  / `saturating_sub` and the unchecked i64 subtraction in `can_pause` are exact (hypothesis `hlim`).
-/
import Mfi.Lemmas.PanicL
import Mfi.Gen.Constraints

namespace Mfi.Props.C15
open Mfi.Panic Mfi.Gen

def LIM : Int := 4611686018427387904

/-- time until which the protocol is (scheduled to be) paused, seen at time `now` -/
def pausedUntil (s : PanicState) (now : Int) : Int :=
  if s.paused && !isExpired s.paused s.start now then s.start + 1800 else now

def InvS (s : PanicState) (now : Int) : Prop :=
  0 ≤ now ∧ now ≤ LIM ∧ 0 ≤ s.daily ∧ s.daily ≤ 3 ∧ 0 ≤ s.lastReset ∧ s.lastReset ≤ now ∧
  (s.paused = false → s.consecutive = 0 ∧ s.start = 0) ∧
  (s.paused = true → (s.consecutive = 1 ∧ 0 ≤ s.start ∧ s.start ≤ now) ∨
                      (s.consecutive = 2 ∧ 0 ≤ s.start ∧ s.start ≤ now + 1800))

/-- the two flag clauses as plain bounds -/
theorem InvS.bounds {s : PanicState} {now : Int} (hi : InvS s now) :
    0 ≤ s.start ∧ s.start ≤ now + 1800 ∧ 0 ≤ s.consecutive ∧ s.consecutive ≤ 2 := by
  obtain ⟨_, _, _, _, _, _, h7, h8⟩ := hi
  cases hp : s.paused
  · have := h7 hp; omega
  · have := h8 hp; omega

theorem inv_mono (s : PanicState) (t now : Int) (hi : InvS s t) (ht : t ≤ now) (hl : now ≤ LIM) :
    InvS s now := by
  obtain ⟨h1, _, h3, h4, h5, h6, h7, h8⟩ := hi
  refine ⟨Int.le_trans h1 ht, hl, h3, h4, h5, Int.le_trans h6 ht, h7, fun hp => ?_⟩
  rcases h8 hp with ⟨a, b, c⟩ | ⟨a, b, c⟩
  · exact .inl ⟨a, b, Int.le_trans c ht⟩
  · exact .inr ⟨a, b, by omega⟩

theorem inv_unpauseS (s : PanicState) (now : Int) (hi : InvS s now) : InvS (unpause s) now := by
  obtain ⟨h1, h2, h3, h4, h5, h6, _⟩ := hi
  exact ⟨h1, h2, h3, h4, h5, h6, fun _ => ⟨rfl, rfl⟩, fun hp => Bool.noConfusion hp⟩

theorem inv_uie (s : PanicState) (now : Int) (hi : InvS s now) : InvS (unpauseIfExpired s now) now := by
  rcases uie_cases s now with ⟨_, _, e⟩ | ⟨_, e⟩
  · rw [e]; exact inv_unpauseS s now hi
  · rw [e]; exact hi

theorem inv_reset (s : PanicState) (now : Int) (hi : InvS s now) : InvS (resetDaily s now) now := by
  rcases resetDaily_cases s now with ⟨_, e⟩ | ⟨_, e⟩
  · rw [e]; exact hi
  · obtain ⟨h1, h2, _, _, _, _, h7, h8⟩ := hi
    rw [e]; exact ⟨h1, h2, Int.le_refl 0, (by decide : (0 : Int) ≤ 3), h1, Int.le_refl now, h7, h8⟩

/-- under the invariant none of the saturating operations of `pause` saturates -/
theorem InvS.startOrExtend_eq {s : PanicState} {now : Int} (hi : InvS s now) :
    startOrExtend s now =
      { s with
        paused := true, daily := s.daily + 1, consecutive := s.consecutive + 1,
        start := if s.paused = true ∧ now < s.start + 1800 then s.start + 1800 else now } := by
  have hb := hi.bounds
  have h2 : now ≤ 4611686018427387904 := hi.2.1
  have h4 := hi.2.2.2.1
  have e1 : satI64 (s.start + PAUSE_DURATION_SECONDS) = s.start + 1800 := by
    unfold satI64 I64MIN I64MAX PAUSE_DURATION_SECONDS
    rw [if_neg (by omega), if_neg (by omega)]
  have e2 : ∀ n : Int, n ≤ 3 → satU8 (n + 1) = n + 1 := fun n h => if_neg (by omega)
  simp only [startOrExtend, e1, e2 _ h4, e2 _ (by omega : s.consecutive ≤ 3), running_iff]

theorem inv_start (s : PanicState) (now : Int) (hi : InvS s now)
    (hc : canPause (resetDaily s now) now = true) :
    InvS (startOrExtend (resetDaily s now) now) now := by
  obtain ⟨hc2, hd3⟩ := (canPause_reset s now).mp hc
  have hr := inv_reset s now hi
  rw [hr.startOrExtend_eq]
  generalize resetDaily s now = r at *
  obtain ⟨h1, h2, h3, h4, h5, h6, h7, h8⟩ := hr
  refine ⟨h1, h2, by simp only; omega, by simp only; omega, h5, h6, fun hp => Bool.noConfusion hp, fun _ => ?_⟩
  simp only
  cases hp : r.paused
  · -- a fresh pause: starts now, first in a row
    have := h7 hp
    rw [if_neg (fun h => Bool.noConfusion h.1)]
    omega
  · -- on top of a pause that is still flagged, hence the second in a row
    have := h8 hp
    split <;> omega

theorem pause_some {s s' : PanicState} {now : Int} (h : pause s now = some s') :
    canPause (resetDaily (unpauseIfExpired s now) now) now = true ∧
    s' = startOrExtend (resetDaily (unpauseIfExpired s now) now) now := Panic.pause_some h

theorem inv_pause (s s' : PanicState) (now : Int) (hi : InvS s now) (h : ixPause s now = some s') :
    InvS s' now := by
  obtain ⟨hc, rfl⟩ := ixPause_some h
  exact inv_start _ _ (inv_uie _ _ hi) hc

theorem inv_unpause (s s' : PanicState) (now : Int) (hi : InvS s now) (h : ixUnpause s now = .ok s') :
    InvS s' now ∧ s'.paused = false ∧ s'.consecutive = 0 := by
  obtain ⟨_, rfl⟩ := ixUnpause_ok_iff.mp h
  exact ⟨inv_unpauseS s now hi, rfl, rfl⟩

theorem inv_punpause (s s' : PanicState) (now : Int) (hi : InvS s now)
    (h : ixUnpausePermissionless s now = .ok s') :
    InvS s' now ∧ s'.paused = false ∧ s'.consecutive = 0 := by
  obtain ⟨_, _, rfl⟩ := ixUnpausePermissionless_ok_iff.mp h
  exact ⟨inv_unpauseS s now hi, rfl, rfl⟩

theorem until_uie (s : PanicState) (now : Int) : pausedUntil (unpauseIfExpired s now) now = pausedUntil s now := by
  rcases uie_cases s now with ⟨_, he, e⟩ | ⟨_, e⟩
  · -- the pause has run out: both sides are `now`
    rw [e]
    simp only [pausedUntil, running_iff]
    rw [if_neg (fun h => Bool.noConfusion h.1), if_neg (by omega)]
  · rw [e]

theorem start_extends (s : PanicState) (now : Int) (hi : InvS s now) :
    pausedUntil (startOrExtend (resetDaily s now) now) now ≤ pausedUntil s now + 1800 := by
  have hr := inv_reset s now hi
  -- the reset touches neither the flag nor the start
  show _ ≤ pausedUntil (resetDaily s now) now + 1800
  generalize resetDaily s now = r at hr ⊢
  rw [hr.startOrExtend_eq]
  simp only [pausedUntil, running_iff, true_and]
  by_cases h : r.paused = true ∧ now < r.start + 1800
  · -- a running pause is shifted by 1800
    simp only [if_pos h]
    split <;> omega
  · -- otherwise the new pause ends at `now + 1800`
    simp only [if_neg h]
    split <;> omega

/-- Each successful pause pushes the paused-until time forward by at most 30 minutes. -/
theorem pause_extends_le_30min (s s' : PanicState) (now : Int) (hi : InvS s now)
    (h : ixPause s now = some s') : pausedUntil s' now ≤ pausedUntil s now + 1800 := by
  obtain ⟨hc, rfl⟩ := ixPause_some h
  have := start_extends _ now (inv_uie _ _ hi)
  rwa [until_uie] at this

/-- In every reachable state, the protocol is never scheduled to stay paused for more than 60
    minutes beyond the present — now or at any later time. -/
theorem inv_le_60min (s : PanicState) (now : Int) (hi : InvS s now) : pausedUntil s now ≤ now + 3600 := by
  have := hi.bounds
  simp only [pausedUntil, running_iff]
  split <;> omega

/-- A pause that has run out stops blocking users immediately, whatever the cache's age:
    from `start + 1800` on the group gate is open with no instruction executed. -/
theorem expired_not_blocking (c : Cache) (now : Int) (h : c.start + 1800 ≤ now) :
    protocolPaused c now = false :=
  Bool.eq_false_iff.mpr fun hp => Int.not_le.mpr ((protocolPaused_iff c now).mp hp).2 h

/-- and conversely the gate only blocks strictly before `start + 1800`. -/
theorem gate_blocks_only_before_expiry (c : Cache) (now : Int) (h : protocolPaused c now = true) :
    c.paused = true ∧ now < c.start + 1800 := (protocolPaused_iff c now).mp h

/-- Admin unpause succeeds iff a pause flag is set ("unpausing never fails while a pause flag is set"). -/
theorem admin_unpause_total (s : PanicState) (now : Int) :
    (∃ s', ixUnpause s now = .ok s') ↔ s.paused = true :=
  ⟨fun ⟨_, h⟩ => (ixUnpause_ok_iff.mp h).1, fun h => ⟨_, ixUnpause_ok_iff.mpr ⟨h, rfl⟩⟩⟩

/-- Anyone may clear an expired pause: the permissionless unpause succeeds iff flagged ∧ expired. -/
theorem anyone_unpause_iff (s : PanicState) (now : Int) :
    (∃ s', ixUnpausePermissionless s now = .ok s') ↔
      (s.paused = true ∧ isExpired s.paused s.start now = true) :=
  ⟨fun ⟨_, h⟩ => ⟨(ixUnpausePermissionless_ok_iff.mp h).1, (ixUnpausePermissionless_ok_iff.mp h).2.1⟩,
   fun h => ⟨_, ixUnpausePermissionless_ok_iff.mpr ⟨h.1, h.2, rfl⟩⟩⟩

/-- a pause at time ≥ start + 1800 (start ≤ now) is expired, so anyone can clear it -/
theorem anyone_can_clear_after_30min (s : PanicState) (now : Int) (hp : s.paused = true)
    (h : s.start + 1800 ≤ now) : ∃ s', ixUnpausePermissionless s now = .ok s' ∧ s'.paused = false :=
  ⟨unpause s, ixUnpausePermissionless_ok_iff.mpr ⟨hp, (isExpired_iff ..).mpr fun _ => h, rfl⟩, rfl⟩

theorem uie_daily (s : PanicState) (now : Int) :
    (unpauseIfExpired s now).daily = s.daily ∧ (unpauseIfExpired s now).lastReset = s.lastReset := by
  unfold unpauseIfExpired
  split <;> exact ⟨rfl, rfl⟩

/-- what a successful pause does to the daily counter: either the counter was reset (≥ 24 h since the
    previous reset, new reset stamp = now, counter = 1) or it was incremented and the stamp kept. -/
theorem start_daily (s : PanicState) (now : Int) (hi : InvS s now)
    (hc : canPause (resetDaily s now) now = true) :
    let s' := startOrExtend (resetDaily s now) now
    (s'.lastReset = s.lastReset ∧ s'.daily = s.daily + 1 ∧ now - s.lastReset < 86400) ∨
    (s'.lastReset = now ∧ s'.daily = 1 ∧ now - s.lastReset ≥ 86400) := by
  intro s'
  have e' : s' = _ := (inv_reset s now hi).startOrExtend_eq
  rcases resetDaily_cases s now with ⟨h, e⟩ | ⟨h, e⟩
  · rw [e] at e'; rw [e']; exact .inl ⟨rfl, rfl, h⟩
  · rw [e] at e'; rw [e']; exact .inr ⟨rfl, rfl, h⟩

theorem pause_daily (s s' : PanicState) (now : Int) (hi : InvS s now) (h : ixPause s now = some s') :
    (s'.lastReset = s.lastReset ∧ s'.daily = s.daily + 1 ∧ now - s.lastReset < 86400) ∨
    (s'.lastReset = now ∧ s'.daily = 1 ∧ now - s.lastReset ≥ 86400) := by
  obtain ⟨hc, rfl⟩ := ixPause_some h
  have := start_daily _ now (inv_uie _ _ hi) hc
  simp only [(uie_daily s now).1, (uie_daily s now).2] at this
  exact this

inductive Op | pause | adminUnpause | anyoneUnpause | propagate
  deriving DecidableEq, Repr

/-- The world: fee-state panic state, one group's cache, the clock, and two ghost fields used only
    to state the daily-limit property (successful pauses since the last counter reset; reset times). -/
structure W where
  st : PanicState
  cache : Cache
  now : Int
  ghostPauses : Int
  resets : List Int        -- newest first
  deriving Repr

def init (t0 : Int) : W :=
  { st := ⟨false, 0, 0, 0, 0⟩, cache := ⟨false, 0, 0⟩, now := t0, ghostPauses := 0, resets := [] }

/-- `dt` seconds pass, then `op` is submitted; a failing instruction leaves the state unchanged
    (runtime atomicity). -/
def step (w : W) (x : Nat × Op) : W :=
  let now := w.now + x.1
  match x.2 with
  | .pause =>
    match ixPause w.st now with
    | some s' =>
      if s'.lastReset = w.st.lastReset
      then { w with st := s', now := now, ghostPauses := w.ghostPauses + 1 }
      else { w with st := s', now := now, ghostPauses := 1, resets := s'.lastReset :: w.resets }
    | none => { w with now := now }
  | .adminUnpause =>
    match ixUnpause w.st now with
    | .ok s' => { w with st := s', now := now }
    | .error _ => { w with now := now }
  | .anyoneUnpause =>
    match ixUnpausePermissionless w.st now with
    | .ok s' => { w with st := s', now := now }
    | .error _ => { w with now := now }
  | .propagate => { w with cache := propagate w.st now, now := now }

def run (w : W) (ops : List (Nat × Op)) : W := ops.foldl step w

def total (ops : List (Nat × Op)) : Nat := (ops.map (·.1)).sum

structure Inv (w : W) : Prop where
  s : InvS w.st w.now
  ghost : w.st.daily = w.ghostPauses
  resets_le : ∀ r ∈ w.resets, r ≤ w.st.lastReset
  resets_apart : w.resets.Pairwise (fun a b => a - b ≥ 86400)
  cache_ok : w.cache.paused = true → w.cache.start + 1800 ≤ w.cache.lastUpdate + 3600
  cache_time : w.cache.lastUpdate ≤ w.now

theorem inv_init (t0 : Int) (h0 : 0 ≤ t0) (h1 : t0 ≤ LIM) : Inv (init t0) := by
  constructor <;> simp [init, InvS] <;> omega

theorem inv_step (w : W) (x : Nat × Op) (hi : Inv w) (hlim : w.now + x.1 ≤ LIM) : Inv (step w x) := by
  obtain ⟨dt, op⟩ := x
  obtain ⟨hs, hg, hrl, hra, hc, hct⟩ := hi
  have hdt : w.now ≤ w.now + dt := Int.le_add_of_nonneg_right (Int.natCast_nonneg dt)
  have hs' : InvS w.st (w.now + dt) := inv_mono _ _ _ hs hdt hlim
  have hct' : w.cache.lastUpdate ≤ w.now + dt := Int.le_trans hct hdt
  -- a failed instruction only moves the clock; either unpause, when it succeeds, is `unpause`
  have failed : Inv { w with now := w.now + dt } := ⟨hs', hg, hrl, hra, hc, hct'⟩
  have unpaused : Inv { w with st := unpause w.st, now := w.now + dt } := ⟨inv_unpauseS _ _ hs', hg, hrl, hra, hc, hct'⟩
  cases op
  case pause =>
    simp only [step]
    cases hpz : ixPause w.st (w.now + ↑dt) with
    | none => exact failed
    | some s' =>
      have hi' := inv_pause _ _ _ hs' hpz
      rcases pause_daily _ _ _ hs' hpz with ⟨h1, h2, _⟩ | ⟨h1, h2, h3⟩
      · simp only [h1, ↓reduceIte]
        exact ⟨hi', hg ▸ h2, h1 ▸ hrl, hra, hc, hct'⟩
      · -- the counter was reset: the new stamp is 24 h past every recorded one
        have hgap : ∀ r ∈ w.resets, s'.lastReset - r ≥ 86400 := fun r hr => by have := hrl r hr; omega
        have hne : ¬ s'.lastReset = w.st.lastReset := by omega
        simp only [hne, ↓reduceIte]
        refine ⟨hi', h2, List.forall_mem_cons.mpr ⟨Int.le_refl _, fun r hr => ?_⟩, List.pairwise_cons.mpr ⟨hgap, hra⟩, hc, hct'⟩
        have := hgap r hr
        show r ≤ s'.lastReset
        omega
  case adminUnpause =>
    simp only [step]
    cases hpz : ixUnpause w.st (w.now + ↑dt) with
    | error e => exact failed
    | ok s' => obtain ⟨_, rfl⟩ := ixUnpause_ok_iff.mp hpz; exact unpaused
  case anyoneUnpause =>
    simp only [step]
    cases hpz : ixUnpausePermissionless w.st (w.now + ↑dt) with
    | error e => exact failed
    | ok s' => obtain ⟨_, _, rfl⟩ := ixUnpausePermissionless_ok_iff.mp hpz; exact unpaused
  case propagate =>
    refine ⟨hs', hg, hrl, hra, fun hp => ?_, Int.le_refl _⟩
    have := hs'.bounds
    show w.st.start + 1800 ≤ w.now + dt + 3600
    omega

theorem step_now (w : W) (x : Nat × Op) : (step w x).now = w.now + x.1 := by
  obtain ⟨dt, op⟩ := x
  cases op <;> simp only [step] <;> (repeat' split) <;> rfl

theorem inv_run (ops : List (Nat × Op)) (w : W) (hi : Inv w) (hlim : w.now + total ops ≤ LIM) :
    Inv (run w ops) := by
  induction ops generalizing w with
  | nil => exact hi
  | cons x xs ih =>
    have ht : total (x :: xs) = x.1 + total xs := by simp [total]
    simp only [run, List.foldl_cons]
    apply ih
    · exact inv_step w x hi (by omega)
    · rw [step_now]; omega

/-! ### Property statements over all histories (every strategy of the global fee admin and of
    everybody else, any timing) -/

/-- never scheduled to remain paused for more than 60 minutes beyond the present -/
theorem never_beyond_60min (t0 : Int) (h0 : 0 ≤ t0) (ops : List (Nat × Op)) (hlim : t0 + total ops ≤ LIM) :
    let w := run (init t0) ops
    pausedUntil w.st w.now ≤ w.now + 3600 := by
  have hi := inv_run ops (init t0) (inv_init t0 h0 (by omega)) hlim
  exact inv_le_60min _ _ hi.s

/-- a group's gate (fresh or stale cache) never blocks a user at or after 60 minutes past the
    moment the cache was written -/
theorem gate_never_beyond_60min (t0 : Int) (h0 : 0 ≤ t0) (ops : List (Nat × Op)) (hlim : t0 + total ops ≤ LIM)
    (t : Int) : let w := run (init t0) ops
    protocolPaused w.cache t = true → t < w.cache.lastUpdate + 3600 := by
  intro w hp
  simp only [w] at *
  have hi := inv_run ops (init t0) (inv_init t0 h0 (by omega)) hlim
  have ⟨h1, h2⟩ := gate_blocks_only_before_expiry _ _ hp
  have := hi.cache_ok h1
  omega

/-- at most two consecutive pauses without an unpause in between -/
theorem consecutive_le_2 (t0 : Int) (h0 : 0 ≤ t0) (ops : List (Nat × Op)) (hlim : t0 + total ops ≤ LIM) :
    (run (init t0) ops).st.consecutive ≤ 2 := by
  have hi := inv_run ops (init t0) (inv_init t0 h0 (by omega)) hlim
  exact hi.s.bounds.2.2.2

/-- at most three pauses succeed between two daily counter resets -/
theorem daily_le_3 (t0 : Int) (h0 : 0 ≤ t0) (ops : List (Nat × Op)) (hlim : t0 + total ops ≤ LIM) :
    (run (init t0) ops).ghostPauses ≤ 3 := by
  have hi := inv_run ops (init t0) (inv_init t0 h0 (by omega)) hlim
  have := hi.s.2.2.2.1
  have := hi.ghost
  omega

/-- daily counter resets are at least 24 hours apart -/
theorem resets_24h_apart (t0 : Int) (h0 : 0 ≤ t0) (ops : List (Nat × Op)) (hlim : t0 + total ops ≤ LIM) :
    (run (init t0) ops).resets.Pairwise (fun a b => a - b ≥ 86400) :=
  (inv_run ops (init t0) (inv_init t0 h0 (by omega)) hlim).resets_apart

/-- two back-to-back pauses: paused, consecutive = 2, start shifted 30 min into the future -/
example : let w := run (init 1000) [(0, .pause), (400, .pause)]
    w.st.paused = true ∧ w.st.consecutive = 2 ∧ w.st.start = 2800 ∧ pausedUntil w.st w.now = 4600 := by decide
/-- a third immediate pause is refused -/
example : ixPause (run (init 1000) [(0, .pause), (400, .pause)]).st 1500 = none := by decide
/-- after expiry a stale cache no longer gates, and anyone can unpause -/
example : let w := run (init 1000) [(0, .pause), (10, .propagate)]
    protocolPaused w.cache 2799 = true ∧ protocolPaused w.cache 2800 = false := by decide
/-- daily limit reached: fourth pause within the day refused, counter reset path exercised later -/
example : let w := run (init 0) [(0, .pause), (1800, .pause), (1800, .pause)]
    w.ghostPauses = 3 ∧ ixPause w.st 5400 = none ∧ (ixPause w.st 86400).isSome = true := by decide

/-! ### every instruction's pause gate is the expiry-aware one

`protocolPaused` above is `MarginfiGroup::is_protocol_paused()` (flag AND not expired). That a lapsed pause stops blocking "without
anyone acting" needs every gated instruction to ask exactly that function — not the cached flag alone. The account-constraint
table regenerated from the source knows one pause test, `notPaused` (the normalised expression `!G.load()?.is_protocol_paused()`);
any other expression on a group account would be kept as `.other n`. -/

def isNotPaused : Gen.Acc.C → Bool
  | .notPaused _ => true
  | _ => false

/-- In all 78 account structs, every raw constraint that sits on the group account is the
    `is_protocol_paused()` test — no instruction gates on the cached pause flag, on the stored start time or on anything else -/
theorem every_pause_gate_is_expiry_aware :
    (Gen.Acc.allStructs.all fun s => (Gen.Acc.fields s).all fun f =>
      if f.name = .f_group ∨ f.name = .f_marginfi_group then f.cons.all isNotPaused else true) = true := by decide

end Mfi.Props.C15
