/-
  C09 — Oracle safety: only fresh, authentic, confident prices, biased conservatively.

  Theorems about Mfi/Model/Risk.lean: adapters (`loadPyth`, `loadSwb`, `loadFixed`, `priceOfType`) are diffed
  against the REAL `OraclePriceFeedAdapter::try_from_bank` + `get_price_of_type` by the `oracle` family
  (account bytes built like the on-chain accounts), valuation against the real risk engine through
  `lending_account_pulse_health` by the `health` family.
-/
import Mfi.Lemmas.RiskL
import Mfi.Lemmas.SkelL
import Mfi.Gen.Oracles
import Mfi.Model.Integr
import Mfi.Lemmas.ConstL
import Mfi.Lemmas.WorldRecvL

namespace Mfi.Props.C09
open Mfi Mfi.Fx Mfi.Risk Mfi.Gen

theorem rmath_ok {α : Type} {o : Option α} {a : α} (h : Risk.math o = .ok a) : o = some a := Risk.math_ok h

/-- A Pyth push account yields a price feed exactly when it is the configured
    account, owned by the expected program, a PriceUpdateV2, fully verified and not older than the
    bank's maximum age; otherwise loading fails with the specific error. -/
theorem pyth_loaded_iff (a : PythAcct) (now age : Int) (px : Pyth) :
    loadPyth a now age = .pyth px ↔
      (a.ownerOk = true ∧ a.keyOk = true ∧ a.discOk = true ∧ a.fullVerification = true ∧
       satAddI64 a.publishTime (oracleMaxAge age true) ≥ now ∧ px = a.px) := by
  unfold loadPyth
  cases a.ownerOk
  · simp
  cases a.keyOk
  · simp
  cases a.discOk
  · simp
  cases a.fullVerification
  · simp
  by_cases h : satAddI64 a.publishTime (oracleMaxAge age true) ≥ now <;> simp [h, eq_comm]

theorem pyth_load_cases (a : PythAcct) (now age : Int) :
    (∃ px, loadPyth a now age = .pyth px) ∨
    loadPyth a now age = .failed E.PythPushWrongAccountOwner ∨ loadPyth a now age = .failed E.WrongOracleAccountKeys ∨
    loadPyth a now age = .failed E.PythPushInvalidAccount ∨
    loadPyth a now age = .failed E.PythPushInsufficientVerificationLevel ∨
    loadPyth a now age = .failed E.PythPushStalePrice := by
  unfold loadPyth
  cases a.ownerOk
  · exact .inr (.inl rfl)
  cases a.keyOk
  · exact .inr (.inr (.inl rfl))
  cases a.discOk
  · exact .inr (.inr (.inr (.inl rfl)))
  cases a.fullVerification
  · exact .inr (.inr (.inr (.inr (.inl rfl))))
  by_cases h : satAddI64 a.publishTime (oracleMaxAge age true) ≥ now
  · exact .inl ⟨a.px, if_pos h⟩
  · exact .inr (.inr (.inr (.inr (.inr (if_neg h)))))

/-- staleness boundary: with a publish time in the ordinary range, the feed is fresh iff it is at most
    max-age seconds old -/
theorem pyth_fresh_iff (pub now age : Int) (h1 : -4611686018427387904 ≤ pub) (h2 : pub ≤ 4611686018427387904)
    (h3 : 0 ≤ oracleMaxAge age true) (h4 : oracleMaxAge age true ≤ 65535) :
    (satAddI64 pub (oracleMaxAge age true) ≥ now) ↔ now - pub ≤ oracleMaxAge age true := by
  unfold satAddI64
  simp only
  split
  · omega
  · split <;> omega

theorem swb_loaded_iff (a : SwbAcct) (now age : Int) (v sd : Int) :
    loadSwb a now age = .swb v sd ↔
      (a.keyOk = true ∧ a.ownerOk = true ∧ ¬ (satSubI64 now a.lastUpdate > oracleMaxAge age false) ∧ v = a.value ∧ sd = a.stdDev) := by
  unfold loadSwb
  cases a.keyOk
  · simp
  cases a.ownerOk
  · simp
  by_cases h : satSubI64 now a.lastUpdate > oracleMaxAge age false <;> simp [h, eq_comm]

/-- a fixed price is usable only when it is not negative -/
theorem fixed_loaded_iff (p q : Int) : loadFixed p = .fixed q ↔ (0 ≤ p ∧ q = p) := by
  unfold loadFixed
  split <;> simp [*, eq_comm]

/-- default maximum age: 60 s for Pyth when the bank configures 0 -/
theorem default_age : oracleMaxAge 0 true = 60 ∧ ∀ n, n ≠ 0 → oracleMaxAge n true = n := by
  constructor
  · decide
  · intro n hn; simp [oracleMaxAge, hn]

/-- what the confidence gate returns: the interval itself, unless it exceeds 5 % of the price (then
    5 %); it fails when the interval exceeds max-confidence × price; a successful result means the
    price is not negative. -/
theorem confGate_spec {conf price mc ci : Int} (h : confGate conf price mc = .ok ci) :
    0 ≤ ci ∧ ci ≤ conf ∧ ci ≤ price * MAX_CONF_INTERVAL / ONE ∧ (ci = conf ∨ ci = price * MAX_CONF_INTERVAL / ONE) ∧
    0 ≤ price * MAX_CONF_INTERVAL / ONE ∧ 0 ≤ conf := by
  unfold confGate at h
  obtain ⟨a, _, h⟩ := Res.bind_ok h
  obtain ⟨maxc, _, h⟩ := Res.bind_ok h
  have h := (Res.of_ite_error h).2
  obtain ⟨capped, hc, h⟩ := Res.bind_ok h
  obtain ⟨h1, h⟩ := Res.of_ite_error h
  obtain ⟨h2, h⟩ := Res.of_ite_error h
  rw [← (mul?_some (rmath_ok hc)).1, ← Res.pure_ok h]
  have h1 := Int.not_lt.1 h1
  have h2 := Int.not_lt.1 h2
  refine ⟨Int.le_min.2 ⟨h2, h1⟩, Int.min_le_left _ _, Int.min_le_right _ _, ?_, h1, h2⟩
  rcases Int.le_total conf capped with hle | hle
  · exact Or.inl (Int.min_eq_left hle)
  · exact Or.inr (Int.min_eq_right hle)

theorem price_nonneg_of_cap {price : Int} (h : 0 ≤ price * MAX_CONF_INTERVAL / ONE) : 0 ≤ price := by
  -- a negative price times the positive cap is negative, and so is its floor
  by_contra hn
  have : price * MAX_CONF_INTERVAL < 0 := Int.mul_neg_of_neg_of_pos (Int.not_le.1 hn) (by decide)
  exact Int.not_le.2 (Int.ediv_neg_of_neg_of_pos this ONE_pos) h

/-- a fixed price ignores type, bias and confidence -/
theorem fixed_price_unbiased (x : Int) (t : PType) (b : Option Bias) (mc : Int) :
    priceOfType (.fixed x) t b mc = .ok x := rfl

/-- For an oracle feed, a biased price is the unbiased price of the same type minus /
    plus a confidence interval that is non-negative and at most 5 % of the price, and the price is not
    negative. -/
theorem biased_price_spec {f : Feed} {t : PType} {b : Bias} {mc q : Int} (hf : ∀ x, f ≠ .fixed x)
    (h : priceOfType f t (some b) mc = .ok q) :
    ∃ p ci, priceOfType f t none mc = .ok p ∧ 0 ≤ ci ∧ ci ≤ p * MAX_CONF_INTERVAL / ONE ∧ 0 ≤ p ∧
      (match b with | .low => q = p - ci | .high => q = p + ci) := by
  obtain ⟨p, c, ci, hp, hg, hb⟩ := priceOfType_biased_ok hf h
  obtain ⟨g0, _, g2, _, g4, _⟩ := confGate_spec hg
  refine ⟨p, ci, hp, g0, g2, price_nonneg_of_cap g4, ?_⟩
  cases b
  · exact applyBias_low hb
  · exact applyBias_high hb

/-- The price used for collateral is at or below the reported price and the
    price used for debt at or above it, and they differ from it by at most 5 %. -/
theorem low_le_price_le_high {f : Feed} {t : PType} {mc lo hi : Int} (hf : ∀ x, f ≠ .fixed x)
    (hl : priceOfType f t (some .low) mc = .ok lo) (hh : priceOfType f t (some .high) mc = .ok hi) :
    ∃ p, priceOfType f t none mc = .ok p ∧ 0 ≤ p ∧ lo ≤ p ∧ p ≤ hi ∧
      p - p * MAX_CONF_INTERVAL / ONE ≤ lo ∧ hi ≤ p + p * MAX_CONF_INTERVAL / ONE ∧ 0 ≤ lo := by
  obtain ⟨p, c1, e1, a1, b1, p0, q1⟩ := biased_price_spec hf hl
  obtain ⟨p2, c2, e2, a2, b2, _, q2⟩ := biased_price_spec hf hh
  cases e1.symm.trans e2
  simp only at q1 q2
  have hM : p * MAX_CONF_INTERVAL / ONE ≤ p := (frac_mul_bounds p0 (by decide) (by decide)).2
  exact ⟨p, e1, p0, by omega, by omega, by omega, by omega, by omega⟩

/-- every valuation of a debt whose oracle failed to load fails, with the loader's error -/
theorem failed_oracle_debt_fails (p : Pos) (r : Req) (c : Nat) (hf : p.feed = .failed c) :
    weightedLiab p r = .error (.err c) := by
  unfold weightedLiab
  simp [hf, Risk.err]

/-- for borrowing purposes (initial requirement) collateral whose oracle failed counts as worth nothing -/
theorem failed_oracle_collateral_worth_nothing (p : Pos) (em : List Entry) (c : Nat) (hf : p.feed = .failed c) :
    ∃ c', weightedAsset p .initial em = .ok (0, 0, c') := by
  unfold weightedAsset
  cases ht : p.bank.tier with
  | isolated => exact ⟨0, by simp [ht]⟩
  | collateral =>
    by_cases hro : p.bank.reduceOnly = true
    · exact ⟨0, by simp [ht, hro]⟩
    · exact ⟨c, by simp [ht, hro, hf]⟩

/-- for liquidation (maintenance) and bankruptcy (equity) assessments a failed collateral oracle is an error -/
theorem failed_oracle_collateral_blocks_assessment (p : Pos) (em : List Entry) (c : Nat) (r : Req)
    (hf : p.feed = .failed c) (hr : r ≠ .initial) (ht : p.bank.tier = .collateral) :
    weightedAsset p r em = .error (.err c) := by
  unfold weightedAsset
  cases r with
  | initial => exact absurd rfl hr
  | maint | equity => simp [ht, hf, Risk.err]

theorem compsLoop_fails {r : Req} {em : List Entry} (p : Pos) :
    ∀ (ps : List Pos) (i : Nat) (acc : Comps), p ∈ ps → (∃ f, weightedValue p r em = .error f) →
      ∃ f, (compsLoop r em ps i acc).2 = some f := by
  intro ps i acc hmem ⟨f, hf⟩
  cases h : compsLoop r em ps i acc with
  | mk c o =>
    cases o with
    | some f' => exact ⟨f', rfl⟩
    | none =>
      obtain ⟨v, hv⟩ := compsLoop_all_ok h p hmem
      rw [hf] at hv; cases hv

/-- If the oracle of any position that carries a debt (one unit or
    more) fails to load — stale, wrong key, wrong owner, unverified, too uncertain — then the initial check,
    the liquidation pre-condition and the bankruptcy assessment ALL fail: nothing is decided on a guess. -/
theorem bad_debt_oracle_blocks_everything (ps : List Pos) (p : Pos) (c : Nat) (hmem : p ∈ ps)
    (hside : getSide p = .ok (some .liabs)) (hf : p.feed = .failed c) :
    (∀ r, ∃ f, components ps r = .error f) ∧
    (∃ f, checkInitHealth ps = .error f) ∧ (∀ ig, ∃ f, preLiquidation ps ig = .error f) ∧
    (∃ f, checkBankrupt ps = .error f) := by
  have hall : ∀ r, ∃ f, components ps r = .error f := fun r => by
    cases hc : components ps r with
    | error f => exact ⟨f, rfl⟩
    | ok cc =>
      -- a valuation that went through valued `p`, whose debt cannot be valued
      obtain ⟨v, hv⟩ := compsLoop_all_ok (components_ok hc) p hmem
      unfold weightedValue at hv
      rw [hside] at hv
      simp only [bind, Except.bind] at hv
      rw [failed_oracle_debt_fails p r c hf] at hv
      cases hv
  refine ⟨hall, ?_, ?_, ?_⟩
  · obtain ⟨f, hf'⟩ := hall .initial
    exact ⟨f, by unfold checkInitHealth; rw [hf']; rfl⟩
  · intro ig
    obtain ⟨f, hf'⟩ := hall .maint
    exact ⟨f, by unfold preLiquidation; rw [hf']; rfl⟩
  · obtain ⟨f, hf'⟩ := hall .equity
    exact ⟨f, by unfold checkBankrupt; rw [hf']; rfl⟩

/-! ### zero or negative prices never size a liquidation or a seizure (handler skeletons, regenerated) -/

section tables
open Mfi.Gen.Skel

/-- classic liquidation checks `asset_price > 0` and `liab_price > 0` before any balance moves; the four
    withdraw handlers (the receivership seizure path) check `price > 0` before their wrapper operation -/
theorem positive_price_before_seizure :
    occursBefore liquidate (· == .zeroAssetPriceCheck) isOp = true ∧
    occursBefore liquidate (· == .zeroLiabPriceCheck) isOp = true ∧
    (∀ l ∈ [withdraw, kamino_withdraw, drift_withdraw, solend_withdraw],
      occursBefore l (· == .zeroAssetPriceCheck) isOp = true) := by decide

/-- in the classic liquidation both positive-price checks run on every path (conditional depth 0) -/
theorem liquidation_price_checks_unconditional :
    unconditionally liquidate liquidate_cond (· == .zeroAssetPriceCheck) = true ∧
    unconditionally liquidate liquidate_cond (· == .zeroLiabPriceCheck) = true := by decide

/-- `b` occurs in `l` with `a` as the event right before it -/
def rightAfter (l : List Ev) (a b : Ev) : Bool := (l.zip l.tail).any fun p => p.1 == a && p.2 == b

/-- The seizure path is the receivership path: in each of the four withdraw handlers the positive-price check sits
    in a branch (`cond` depth 1) opened right after the read of the ACCOUNT_IN_RECEIVERSHIP flag — the flag every
    third-party bracket (liquidation AND deleverage) sets — and of no narrower flag; the flag is read exactly there
    and once more for the skipped health check. -/
theorem seizure_price_check_on_every_receivership_withdraw :
    (∀ l ∈ [withdraw, kamino_withdraw, drift_withdraw, solend_withdraw],
      rightAfter l (.acctFlag .inReceivership) .zeroAssetPriceCheck = true ∧
      (l.filter (· == .zeroAssetPriceCheck)).length = 1) ∧
    (∀ p ∈ [(withdraw, withdraw_cond), (kamino_withdraw, kamino_withdraw_cond), (drift_withdraw, drift_withdraw_cond),
            (solend_withdraw, solend_withdraw_cond)],
      p.1.length = p.2.length ∧
      (p.1.zip p.2).all (fun q => q.1 != .zeroAssetPriceCheck || q.2 == 1) = true) := by decide

end tables

/-! ### every oracle kind binds every account it reads (adapter arms regenerated from state/price.rs) -/

section arms
open Mfi.Gen.Ora

def isLoad : OEv → Bool
  | .loadPyth _ | .loadSwb _ => true
  | _ => false

def firstLoad (l : List OEv) : Nat := (l.findIdx? isLoad).getD l.length

def declaredLen (l : List OEv) : Option Nat := l.findSome? fun | .lenCheck n => some n | _ => none

def at? (l : List OEv) (e : OEv) : Option Nat := l.findIdx? (· == e)

def before (l : List OEv) (e : OEv) (k : Nat) : Bool := match at? l e with | some i => decide (i < k) | none => false

/-- an arm that produces a price -/
def pricing (l : List OEv) : Bool := l.any isLoad || l.contains .fixedNonNegCheck

/-- The arms are all there: 13 oracle setups; `None` refuses, the two deprecated ones abort -/
theorem arms_complete :
    arms.length = 13 ∧ arm_None = [.notSetup] ∧ arm_PythLegacy = [.deprecatedPanic] ∧ arm_SwitchboardV2 = [.deprecatedPanic] ∧
    (arms.filter fun a => pricing a.2).length = 10 := by decide

/-- Every pricing arm first fixes the number of accounts, and every one of those accounts
    is compared with the bank's configured key at its own index before any price is loaded (exact oracle account
    configured for the bank — for venue-backed banks also the reserve / spot market / stake accounts) -/
theorem every_account_bound :
    ∀ a ∈ arms, pricing a.2 = true →
      a.2.head? = (declaredLen a.2).map OEv.lenCheck ∧
      (match declaredLen a.2 with
       | some n => (List.range n).all fun i => before a.2 (.keyCheck i) (firstLoad a.2)
       | none => false) = true := by decide

/-- A Pyth price account is loaded only after its owner was compared with the receiver program -/
theorem pyth_owner_checked :
    ∀ a ∈ arms, (∀ i, a.2.contains (.loadPyth i) = true → i = 0 ∧ before a.2 .pythOwnerCheck (firstLoad a.2) = true) := by
  intro a ha i
  have : ∀ a ∈ arms, ∀ i ∈ [0, 1, 2, 9], a.2.contains (.loadPyth i) = true → i = 0 ∧ before a.2 .pythOwnerCheck (firstLoad a.2) = true := by decide
  intro h
  have hi : i ∈ [0, 1, 2, 9] := by
    have : ∀ a ∈ arms, ∀ e ∈ a.2, (match e with | .loadPyth j => decide (j ∈ [0, 1, 2, 9]) | _ => true) = true := by decide
    have he := List.contains_iff_mem.1 h
    have := this a ha _ he
    simpa using this
  exact this a ha i hi h

/-- Venue-backed arms (Kamino / Drift / Solend) load the venue account through the owner- and
    discriminator-checking loader after its key check, test its staleness next, and only then load the price -/
theorem venue_fresh :
    ∀ a ∈ arms, a.2.any (fun | .venueLoader _ => true | _ => false) = true →
      (match at? a.2 (.keyCheck 1), at? a.2 (.venueLoader 1), a.2.findIdx? (fun | .venueStaleCheck _ => true | _ => false) with
       | some k, some l, some s => decide (k < l ∧ l < s ∧ s < firstLoad a.2)
       | _, _, _ => false) = true := by decide

/-- The staleness test is made against the right clock: Kamino reserves against the current slot, Drift spot
    markets against the current unix time, Solend reserves against the Clock sysvar (slot) read by the callee -/
theorem venue_clock :
    (arms.filterMap fun a => (a.2.findSome? fun | .venueStaleCheck c => some c | _ => none).map fun c => (a.1, c)) =
      [(.sDriftPythPull, .unixTs), (.sDriftSwitchboardPull, .unixTs), (.sKaminoPythPush, .slot), (.sKaminoSwitchboardPull, .slot),
       (.sSolendPythPull, .sysvar), (.sSolendSwitchboardPull, .sysvar)] := by decide

/-- the venue-backed arms are exactly the six Kamino / Drift / Solend ones -/
theorem venue_arms :
    (arms.filter fun a => a.2.any (fun | .venueLoader _ => true | _ => false)).map (·.1) =
      [.sDriftPythPull, .sDriftSwitchboardPull, .sKaminoPythPush, .sKaminoSwitchboardPull, .sSolendPythPull, .sSolendSwitchboardPull] := by decide

/-- Exchange-rate adjustment happens after the load and covers price AND confidence
    (Pyth: spot, EMA and both confidences; Switchboard: value and standard deviation), so the confidence band
    keeps its proportion to the price -/
theorem adjust_complete :
    ∀ a ∈ arms, a.2.any (fun | .venueLoader _ => true | _ => false) = true →
      (if a.2.any (fun | .loadPyth _ => true | _ => false)
       then (a.2.drop (firstLoad a.2 + 1)) = [.adjust .spot, .adjust .ema, .adjust .spotConf, .adjust .emaConf]
       else (a.2.drop (firstLoad a.2 + 1)) = [.adjust .spot, .adjust .spotConf]) := by decide

/-- a fixed price is checked non-negative; the staked variant refuses an empty stake pool before dividing by its supply -/
theorem fixed_and_staked :
    arm_Fixed = [.lenCheck 0, .fixedNonNegCheck] ∧
    before arm_StakedWithPythPush .supplyPositiveCheck (firstLoad arm_StakedWithPythPush) = true ∧
    arm_StakedWithPythPush.drop (firstLoad arm_StakedWithPythPush + 1) = [.adjust .spot, .adjust .ema] := by decide

end arms

/-! ### the staked-collateral re-scaling (the arithmetic between the load and the price of `arm_StakedWithPythPush`) -/

section staked
open Mfi.Integr

theorem tdiv_floor_of_nonneg {a b : Int} (ha : 0 ≤ a) (hb : 0 < b) :
    0 ≤ Int.tdiv a b ∧ Int.tdiv a b * b ≤ a ∧ a < (Int.tdiv a b + 1) * b := by
  rw [Int.tdiv_eq_ediv_of_nonneg ha]
  exact ⟨Int.ediv_nonneg ha (by omega), Int.ediv_mul_le a (by omega), Int.lt_ediv_add_one_mul_self a hb⟩

theorem tdiv_nonpos_of_nonpos {a b : Int} (ha : a ≤ 0) (hb : 0 < b) : Int.tdiv a b ≤ 0 := by
  have := Int.tdiv_nonneg (a := -a) (b := b) (by omega) (by omega)
  rw [Int.neg_tdiv] at this; omega

/-- one re-scaled component: never above `x × (stake − 1 SOL) / supply` (exact), short of it by less than one
    unit of the feed, and a zero or negative `x` never comes out positive -/
def StakedComp (x stake supply r : Int) : Prop :=
  (0 ≤ x → 0 ≤ r ∧ r * supply ≤ x * (stake - LAMPORTS_PER_SOL) ∧ x * (stake - LAMPORTS_PER_SOL) < (r + 1) * supply) ∧
  (x ≤ 0 → r ≤ 0)

/-- Whenever the staked re-scaling produces prices, the pool has a positive token
    supply and at least its non-refundable first SOL, and BOTH the spot and the time-weighted price are the SOL
    price times (stake − 1 SOL)/supply rounded toward zero: at or below the exact product for a non-negative
    price, and never positive for a zero or negative one. -/
theorem staked_never_overstates {price ema stake supply p e : Int} (hsup : 0 ≤ supply)
    (h : stakedAdjust price ema stake supply = .ok p e) :
    0 < supply ∧ LAMPORTS_PER_SOL ≤ stake ∧ StakedComp price stake supply p ∧ StakedComp ema stake supply e ∧
    I64MIN ≤ p ∧ p ≤ I64MAX ∧ I64MIN ≤ e ∧ e ≤ I64MAX := by
  unfold stakedAdjust at h
  by_cases hs0 : supply = 0
  · rw [if_pos hs0] at h; cases h
  by_cases hst : stake < LAMPORTS_PER_SOL
  · rw [if_neg hs0, if_pos hst] at h; cases h
  rw [if_neg hs0, if_neg hst] at h
  by_cases hp : Int.tdiv (price * (stake - LAMPORTS_PER_SOL)) supply < I64MIN ∨ I64MAX < Int.tdiv (price * (stake - LAMPORTS_PER_SOL)) supply
  · rw [if_pos hp] at h; cases h
  by_cases he : Int.tdiv (ema * (stake - LAMPORTS_PER_SOL)) supply < I64MIN ∨ I64MAX < Int.tdiv (ema * (stake - LAMPORTS_PER_SOL)) supply
  · rw [if_neg hp, if_pos he] at h; cases h
  rw [if_neg hp, if_neg he] at h
  injection h with h1 h2
  subst h1; subst h2
  have hpos : 0 < supply := by omega
  have hadj : 0 ≤ stake - LAMPORTS_PER_SOL := by omega
  have comp : ∀ x, StakedComp x stake supply (Int.tdiv (x * (stake - LAMPORTS_PER_SOL)) supply) := fun x =>
    ⟨fun hx => tdiv_floor_of_nonneg (Int.mul_nonneg hx hadj) hpos,
     fun hx => tdiv_nonpos_of_nonpos (Int.mul_nonpos_of_nonpos_of_nonneg hx hadj) hpos⟩
  exact ⟨hpos, by omega, comp price, comp ema, by omega, by omega, by omega, by omega⟩

/-- the refusals: an empty pool token supply, and a pool below its first SOL, produce no price -/
theorem staked_refusals (price ema stake supply : Int) :
    (supply = 0 → stakedAdjust price ema stake supply = .zeroSupply) ∧
    (supply ≠ 0 → stake < LAMPORTS_PER_SOL → stakedAdjust price ema stake supply = .math) := by
  constructor
  · intro h; simp [stakedAdjust, h]
  · intro h1 h2; simp [stakedAdjust, h1, h2]

/-- (non-vacuity) a pool of 1 + 1050 SOL behind 1000 pool tokens prices the token at 1.05 SOL -/
example : stakedAdjust 150000000 149000000 1051000000000 1000000000000 = .ok 157500000 156450000 := by decide

end staked

def demoPyth : Pyth := { price := 100000000, conf := 100000, emaPrice := 99000000, emaConf := 90000, expo := -6 }

example : priceOfType (.pyth demoPyth) .realTime none 0 = .ok (100 * ONE) := by decide
example : ∃ lo, priceOfType (.pyth demoPyth) .realTime (some .low) 0 = .ok lo ∧ lo < 100 * ONE ∧ 99 * ONE < lo :=
  ⟨_, by rfl, by decide, by decide⟩

/-! ### the numbers of the property text (constants regenerated from the real crates on every run) -/

/-- "scaled to a 95 % interval" = 2.12 standard deviations, "capped at 5 % of the price" — both to the last bit -/
theorem confidence_numbers :
    (Mfi.Gen.CONF_INTERVAL_MULTIPLE * 100 - 212 * ONE).natAbs < 100 ∧ (Mfi.Gen.MAX_CONF_INTERVAL * 20 - ONE).natAbs < 20 := by decide

/-- Pyth price components are scaled by the row of the table chosen by the feed's exponent: that table is exactly the powers of ten 10^0 .. 10^23 as I80F48 (regenerated from the real
    constants on every run; the model computes its own powers of ten and is diffed against the real functions across
    ALL 24 decimals) -/
theorem scaling_table_is_powers_of_ten : Mfi.Gen.EXP_10_I80F48 = Mfi.Fx.POW10FX := Mfi.ConstL.exp10_table_exact

/-- the Switchboard deviation is scaled to a 95 % interval too (1.96 standard deviations), the default maximum
    confidence is a tenth of the price (u32 scale), the default maximum age one minute -/
theorem switchboard_and_default_numbers :
    (Mfi.Gen.STD_DEV_MULTIPLE * 100 - 196 * ONE).natAbs < 100 ∧
    Mfi.Gen.U32_MAX_FX = 4294967295 * ONE ∧ (Mfi.Gen.U32_MAX_DIV_10_FX * 10 - Mfi.Gen.U32_MAX_FX).natAbs < 10 * ONE ∧
    Mfi.Gen.MAX_PYTH_ORACLE_AGE = 60 := by decide

section whole_instructions
open Mfi Mfi.World Mfi.Gen

/-- A withdrawal from an account in receivership (a liquidator's or the
    risk admin's seizure) goes through only when the real-time, LOW-biased price of the withdrawn bank — taken from the feed the
    risk engine was handed for THAT bank, within the bank's own confidence bound — is defined and strictly positive -/
theorem world_receivership_withdraw_needs_positive_price {c : Ctx} {amt : Int} {all : Bool} {o : Out}
    (h : World.withdraw c amt all = .ok o) (hr : flag c ACCOUNT_IN_RECEIVERSHIP = true) :
    ∃ rb p, c.risk.find? (·.key == c.b.key) = some rb ∧
      Mfi.Risk.priceOfType rb.feed .realTime (some .low) rb.r.maxConf = .ok p ∧ 0 < p := by
  obtain ⟨price, b, i, s, x', pre, hp, _⟩ := (withdraw_ok h).core
  obtain ⟨rb, hrb, hpp, hpos⟩ := receivershipPrice_ok (withdrawPrice_recv hr ▸ hp)
  exact ⟨rb, price, hrb, hpp, hpos⟩

/-- Outside receivership the withdrawal is not metered by any price (the initial-margin check that follows values the
    whole portfolio with the engine's own fail-closed rules: C04) -/
theorem world_plain_withdraw_fetches_no_price {c : Ctx} (hr : flag c ACCOUNT_IN_RECEIVERSHIP = false) : withdrawPrice c = .ok 0 := by
  unfold withdrawPrice; rw [hr]; rfl

/-- In a COMMITTED transaction of the world machine (begun with no account in receivership),
    every withdrawal from an account that was in receivership when it ran — i.e. every seizure, by a liquidator or by the risk
    admin — sits strictly inside that account's own bracket AND was made at a defined, strictly positive real-time low-biased price
    of the withdrawn bank. No collateral is seized at a zero, negative or unusable price, in any transaction. -/
theorem world_tx_every_seizure_is_priced {w w' : WState} {tx : List TOp} (h : w.runTx tx = some w')
    (h0 : ∀ (k : Nat) (a : AcctV), w.accts[k]? = some a → inRecv a = false)
    {i ai bi signer : Nat} {amount vault : Int} {all : Bool} (hi : tx[i]? = some (.ix (.withdraw ai bi signer amount all vault))) :
    ∃ (wi : WState) (a : AcctV) (b : WBank), w.before tx i = some wi ∧ wi.accts[ai]? = some a ∧ wi.banks[bi]? = some b ∧
      (inRecv a = true →
        (AnyBracket tx ai ∧ 0 < i ∧ i + 1 < tx.length) ∧
        ∃ rb p, (wi.ctx a b signer b.v.liquidityVault vault).risk.find? (·.key == b.v.key) = some rb ∧
          Mfi.Risk.priceOfType rb.feed .realTime (some .low) rb.r.maxConf = .ok p ∧ 0 < p) := by
  obtain ⟨wi, a, b, o, hbef, ha, hb, ho, hbr⟩ := tx_withdraw_in_bracket h h0 hi
  exact ⟨wi, a, b, hbef, ha, hb, fun hr => ⟨hbr hr, world_receivership_withdraw_needs_positive_price ho hr⟩⟩

end whole_instructions

end Mfi.Props.C09
