/-
  C14 — Operational-state and global-pause gating of financial instructions.
  Three kinds of theorems: (1) about the model of `validate_bank_state` (diffed exhaustively against
  the real function), (2) by `decide` over the account-constraint table and the handler skeletons that
  the translator REGENERATES from the Rust source on every run, (3) about the pause-cache gate
  (Mfi/Model/Panic.lean, diffed by the `panic` family). Instruction-level behaviour is replayed through
  real dispatch by the C14 monitor (state × instruction and pause-timing × instruction matrices).
-/
import Mfi.Props.C15
import Mfi.Lemmas.WorldSolvH
namespace Mfi.Props.C14
open Mfi.Gate Mfi.Gen

/-- a killed bank accepts nothing, whatever the instruction kind -/
theorem killed_gates (k : Kind) : validateBankState .killedByBankruptcy k = some E.BankKilledByBankruptcy := by
  cases k <;> rfl

/-- deposit/borrow kind: refused when paused or reduce-only, accepted when operational -/
theorem deposit_borrow_kind :
    validateBankState .paused .failsIfPausedOrReduceState = some E.BankPaused ∧
    validateBankState .reduceOnly .failsIfPausedOrReduceState = some E.BankReduceOnly ∧
    validateBankState .operational .failsIfPausedOrReduceState = none := by decide

/-- withdraw/repay/liquidate/bankruptcy kind: refused when paused, still works when reduce-only -/
theorem withdraw_repay_kind :
    validateBankState .paused .failsInPausedState = some E.BankPaused ∧
    validateBankState .reduceOnly .failsInPausedState = none ∧
    validateBankState .operational .failsInPausedState = none := by decide

open Mfi.Gen.Skel in
/-- every handler calls `validate_bank_state` with the kind the property requires, before any
    share-moving call (skeletons regenerated from the source) -/
theorem handlers_use_required_kind :
    occursBefore deposit (· == .bankState .bank .failsIfPausedOrReduceState) isShareMove = true ∧
    occursBefore borrow (· == .bankState .bank .failsIfPausedOrReduceState) isShareMove = true ∧
    occursBefore withdraw (· == .bankState .bank .failsInPausedState) isShareMove = true ∧
    occursBefore repay (· == .bankState .bank .failsInPausedState) isShareMove = true ∧
    occursBefore liquidate (· == .bankState .assetBank .failsInPausedState) isShareMove = true ∧
    occursBefore liquidate (· == .bankState .liabBank .failsInPausedState) isShareMove = true ∧
    occursBefore handle_bankruptcy (· == .bankState .bank .failsInPausedState) isShareMove = true ∧
    occursBefore kamino_deposit (· == .bankState .bank .failsIfPausedOrReduceState) isShareMove = true ∧
    occursBefore drift_deposit (· == .bankState .bank .failsIfPausedOrReduceState) isShareMove = true ∧
    occursBefore solend_deposit (· == .bankState .bank .failsIfPausedOrReduceState) isShareMove = true ∧
    occursBefore kamino_withdraw (· == .bankState .bank .failsInPausedState) isShareMove = true ∧
    occursBefore drift_withdraw (· == .bankState .bank .failsInPausedState) isShareMove = true ∧
    occursBefore solend_withdraw (· == .bankState .bank .failsInPausedState) isShareMove = true := by decide

open Mfi.Gen.Skel in
/-- On EVERY path: the bank-state gate sits at conditional depth 0 of each of the thirteen handlers — it is not
    skipped for flagged accounts, special kinds of bank, receivership, or any argument -/
theorem bank_state_gate_unconditional :
    ∀ h ∈ [(deposit, deposit_cond), (borrow, borrow_cond), (withdraw, withdraw_cond), (repay, repay_cond),
           (liquidate, liquidate_cond), (handle_bankruptcy, handle_bankruptcy_cond),
           (kamino_deposit, kamino_deposit_cond), (drift_deposit, drift_deposit_cond), (solend_deposit, solend_deposit_cond),
           (kamino_withdraw, kamino_withdraw_cond), (drift_withdraw, drift_withdraw_cond), (solend_withdraw, solend_withdraw_cond)],
      unconditionally h.1 h.2 isBankState = true := by decide

open Mfi.Gen.Acc in
/-- the instructions that move funds or change positions (the set F written out) -/
def fundMoving : List S :=
  [.LendingAccountDeposit, .LendingAccountWithdraw, .LendingAccountBorrow, .LendingAccountRepay,
   .LendingAccountLiquidate, .LendingPoolHandleBankruptcy, .LendingAccountCloseBalance,
   .LendingAccountPurgeDelevBalance, .LendingPoolCollectBankFees, .LendingPoolWithdrawFees,
   .LendingPoolWithdrawFeesPermissionless, .LendingPoolWithdrawInsurance,
   .LendingPoolUpdateFeesDestinationAccount, .LendingAccountWithdrawEmissions,
   .LendingAccountWithdrawEmissionsPermissionless, .TransferToNewAccount, .TransferToNewAccountPda,
   .KaminoDeposit, .KaminoWithdraw, .DriftDeposit, .DriftWithdraw, .SolendDeposit, .SolendWithdraw]

open Mfi.Gen.Acc in
/-- Every fund-moving / position-changing instruction carries the
    `!group.is_protocol_paused()` constraint on its group account (table regenerated from the
    `#[derive(Accounts)]` structs on every run; `close_balance` and `purge_deleverage_balance` are in
    the list since `fix: refuse close_balance and purge_deleverage_balance while the protocol pause
    is in force`). -/
theorem pause_gate_table : ∀ s ∈ fundMoving, hasNotPaused s .f_group = true := by decide

open Mfi.Gen.Acc in
/-- every instruction whose handler (skeleton) contains a wrapper operation is in the gated set or is
    one of the bracket instructions that cannot move funds themselves — nothing else changes positions -/
theorem every_struct_with_mut_account_is_classified :
    ∀ s ∈ allStructs, (fields s).any (fun f => f.ty == .loader .marginfiAccount && f.isMut) = true →
      (s ∈ fundMoving ∨ s ∈ [.MarginfiAccountClose, .LendingAccountSettleEmissions,
        .MarginfiAccountUpdateEmissionsDestinationAccount, .LendingAccountStartFlashloan,
        .LendingAccountEndFlashloan, .SetAccountFreeze, .InitLiquidationRecord, .EndLiquidation, .EndDeleverage,
        .StartLiquidation, .StartDeleverage, .PulseHealth]) := by decide

/-- The group gate is exactly `flag ∧ ¬expired`; from `start + 1800` on it
    is open with no instruction executed, whatever the cache's age (C15.expired_not_blocking). -/
theorem pause_expiry_no_update (c : Mfi.Panic.Cache) (now : Int) (h : c.start + 1800 ≤ now) :
    Mfi.Panic.protocolPaused c now = false := Mfi.Props.C15.expired_not_blocking c now h

/-- while the pause is in force the gate is closed -/
theorem pause_in_force (c : Mfi.Panic.Cache) (now : Int) (hp : c.paused = true) (h0 : c.start ≤ now)
    (h1 : now < c.start + 1800) : Mfi.Panic.protocolPaused c now = true :=
  (Mfi.Panic.protocolPaused_iff c now).mpr ⟨hp, h1⟩

section whole_instructions
open Mfi Mfi.World Mfi.Gen Mfi.Gen.Acc

/-- While the group is paused each of the five user instructions answers
    `ProtocolPaused` — the pause is the first account check of every one of them (regenerated table), so no other
    circumstance (signer, flags, bank state, amounts) changes the answer, and nothing is executed -/
theorem world_protocol_pause_refuses_first (c : Ctx) (hp : c.g.paused = true) :
    (∀ amt up, World.deposit c amt up = .error (.err E.ProtocolPaused)) ∧
    (∀ amt all, World.withdraw c amt all = .error (.err E.ProtocolPaused)) ∧
    (∀ amt, World.borrow c amt = .error (.err E.ProtocolPaused)) ∧
    (∀ amt all, World.repay c amt all = .error (.err E.ProtocolPaused)) ∧
    World.closeBalance c = .error (.err E.ProtocolPaused) := by
  have h := paused_first c hp
  simp only [List.forall_mem_cons, List.not_mem_nil, false_imp_iff, implies_true, and_true] at h
  obtain ⟨h1, h2, h3, h4, h5⟩ := h
  refine ⟨?_, ?_, ?_, ?_, ?_⟩
  · intro amt up; simp [World.deposit, h1, bind, Except.bind]
  · intro amt all; simp [World.withdraw, h2, bind, Except.bind]
  · intro amt; simp [World.borrow, h3, bind, Except.bind]
  · intro amt all; simp [World.repay, h4, bind, Except.bind]
  · simp [World.closeBalance, h5, bind, Except.bind]

/-- the operational state a successful instruction found the bank in -/
theorem world_bank_state_gates (c : Ctx) :
    (∀ amt up o, World.deposit c amt up = .ok o → Gate.OpState.ofInt c.b.opState = some .operational) ∧
    (∀ amt o, World.borrow c amt = .ok o → Gate.OpState.ofInt c.b.opState = some .operational) ∧
    (∀ amt all o, World.withdraw c amt all = .ok o →
        Gate.OpState.ofInt c.b.opState = some .operational ∨ Gate.OpState.ofInt c.b.opState = some .reduceOnly) ∧
    (∀ amt all o, World.repay c amt all = .ok o →
        Gate.OpState.ofInt c.b.opState = some .operational ∨ Gate.OpState.ofInt c.b.opState = some .reduceOnly) := by
  have strict : ∀ {s : Gate.OpState}, Gate.validateBankState s .failsIfPausedOrReduceState = none → s = .operational := by
    intro s; cases s <;> simp [Gate.validateBankState]
  have lax : ∀ {s : Gate.OpState}, Gate.validateBankState s .failsInPausedState = none → s = .operational ∨ s = .reduceOnly := by
    intro s; cases s <;> simp [Gate.validateBankState]
  refine ⟨?_, ?_, ?_, ?_⟩
  · intro amt up o h
    obtain ⟨s, hs, hv⟩ := bankState_ok (deposit_ok h).state
    rw [hs, strict hv]
  · intro amt o h
    obtain ⟨b, _, _, _, _, _, _, hst, _⟩ := (borrow_ok h).core
    obtain ⟨s, hs, hv⟩ := bankState_ok hst
    rw [hs, strict hv]
  · intro amt all o h
    obtain ⟨s, hs, hv⟩ := bankState_ok (withdraw_ok h).state
    rw [hs]; rcases lax hv with rfl | rfl <;> simp
  · intro amt all o h
    obtain ⟨s, hs, hv⟩ := bankState_ok (repay_ok h).state
    rw [hs]; rcases lax hv with rfl | rfl <;> simp

/-- A bank that is paused or killed by bankruptcy takes no deposit, withdrawal,
    borrow or repayment; a reduce-only bank takes no deposit and no borrow -/
theorem world_killed_or_paused_bank_untouched (c : Ctx)
    (h : Gate.OpState.ofInt c.b.opState = some .paused ∨ Gate.OpState.ofInt c.b.opState = some .killedByBankruptcy) :
    (∀ amt up, (World.deposit c amt up).isOk = false) ∧ (∀ amt, (World.borrow c amt).isOk = false) ∧
    (∀ amt all, (World.withdraw c amt all).isOk = false) ∧ (∀ amt all, (World.repay c amt all).isOk = false) := by
  obtain ⟨g1, g2, g3, g4⟩ := world_bank_state_gates c
  -- neither state is one a success finds
  have no1 : ¬ Gate.OpState.ofInt c.b.opState = some .operational := by rcases h with h | h <;> rw [h] <;> decide
  have no2 : ¬ (Gate.OpState.ofInt c.b.opState = some .operational ∨ Gate.OpState.ofInt c.b.opState = some .reduceOnly) := by
    rcases h with h | h <;> rw [h] <;> decide
  exact ⟨fun amt up => Res.isOk_false fun o hr => no1 (g1 amt up o hr), fun amt => Res.isOk_false fun o hr => no1 (g2 amt o hr),
    fun amt all => Res.isOk_false fun o hr => no2 (g3 amt all o hr), fun amt all => Res.isOk_false fun o hr => no2 (g4 amt all o hr)⟩

theorem world_reduce_only_bank_takes_no_deposit_or_borrow (c : Ctx) (h : Gate.OpState.ofInt c.b.opState = some .reduceOnly) :
    (∀ amt up, (World.deposit c amt up).isOk = false) ∧ (∀ amt, (World.borrow c amt).isOk = false) := by
  obtain ⟨g1, g2, _, _⟩ := world_bank_state_gates c
  have no1 : ¬ Gate.OpState.ofInt c.b.opState = some .operational := by rw [h]; decide
  exact ⟨fun amt up => Res.isOk_false fun o hr => no1 (g1 amt up o hr), fun amt => Res.isOk_false fun o hr => no1 (g2 amt o hr)⟩

theorem paused_checks (env : Env) (S : Gen.Acc.S) (rest : List (Gen.Acc.Chk × Nat))
    (hs : Gen.Acc.checks S = (.cons .f_group (.notPaused .f_group), 6080) :: rest)
    (hg : ∃ k a, env .f_group = some (.group k a true)) : runChecks env (Gen.Acc.checks S) = .error (.err E.ProtocolPaused) := by
  obtain ⟨k, a, hg⟩ := hg
  rw [hs]
  exact runChecks_head_fails (by simp [evalChk, hg])

/-- While the protocol-wide pause is in force for the group, NO instruction of the world
    state machine — deposit, withdraw, borrow, repay, balance closure, liquidation, bankruptcy settlement, account transfer, fee
    collection, by anybody, with any arguments — changes any margin account or moves a token of any liquidity vault; the only
    instruction that still runs, the accrual crank, touches no account and moves no token (it brings a bank's books up to date). -/
theorem world_paused_machine_is_frozen (w : WState) (hp : w.g.paused = true) (op : WOp) :
    (w.step op).accts = w.accts ∧ (w.step op).g = w.g ∧ ∀ e ∈ (w.stepE op).2, e.inflow = 0 := by
  rw [step_getD]
  cases h : w.step? op with
  | none => rw [stepE_refused h]; exact ⟨rfl, rfl, fun _ he => by cases he⟩
  | some w' =>
    rcases accepted_paused (step?_accepted h) hp with ⟨bi, b, books, rfl, hb, ho, rfl⟩ | ⟨dt, rfl, rfl⟩
    · refine ⟨rfl, rfl, ?_⟩
      -- the accrual crank: its one effect books no token
      simp only [WState.stepE, hb, ho]
      intro e he; rw [List.mem_singleton.mp he]
    · exact ⟨rfl, rfl, fun _ he => by cases he⟩

theorem map_slots_set {l : List AcctV} {i : Nat} {a a' : AcctV} (ha : l[i]? = some a) (hs : a'.slots = a.slots) :
    (l.set i a').map (·.slots) = l.map (·.slots) := ListL.map_set_of_eq (·.slots) a' ha hs

theorem paused_stepIn {tx : List TOp} {i : Nat} {t : TOp} {w w' : WState} (hp : w.g.paused = true)
    (h : w.stepIn tx i t = some w') : w'.accts.map (·.slots) = w.accts.map (·.slots) ∧ w'.g = w.g := by
  rcases stepIn_cases h with ⟨op, rfl, hs⟩ | ⟨_, _, _, ha, rfl, hs, _⟩
  · obtain ⟨h1, h2, _⟩ := world_paused_machine_is_frozen w hp op
    exact step?_some hs ▸ ⟨by rw [h1], h2⟩
  · exact ⟨map_slots_set ha hs, rfl⟩

theorem paused_runFrom (tx : List TOp) : ∀ (rest : List TOp) (i : Nat) (w w' : WState), w.g.paused = true →
    WState.runFrom tx i rest w = some w' → w'.accts.map (·.slots) = w.accts.map (·.slots) ∧ w'.g = w.g := by
  intro rest i w w' hp h
  refine runFrom_keeps (P := fun w1 => w1.accts.map (·.slots) = w.accts.map (·.slots) ∧ w1.g = w.g) (fun hs hP => ?_) rest i w w' h ⟨rfl, rfl⟩
  obtain ⟨a1, g1⟩ := paused_stepIn (hP.2 ▸ hp) hs
  exact ⟨a1.trans hP.1, g1.trans hP.2⟩

/-- While the protocol-wide pause is in force for the group, NO sequence of
    transactions of the world machine — whatever they contain: user instructions, liquidations, settlements, flash-loan and
    receivership brackets, by anybody — changes a single position of any margin account or any group setting (the pause itself
    included: it stays in force until the fee admin's instructions or the clock end it) -/
theorem world_paused_transactions_move_no_position : ∀ (txs : List (List TOp)) (w : WState), w.g.paused = true →
    (w.runTxs txs).accts.map (·.slots) = w.accts.map (·.slots) ∧ (w.runTxs txs).g = w.g := by
  intro txs w hp
  refine runTxs_ind (P := fun w' => w'.accts.map (·.slots) = w.accts.map (·.slots) ∧ w'.g = w.g) (fun w1 w2 tx h hP => ?_) txs w ⟨rfl, rfl⟩
  obtain ⟨a1, g1⟩ := paused_runFrom tx tx 0 w1 w2 (hP.2 ▸ hp) h
  exact ⟨a1.trans hP.1, g1.trans hP.2⟩

/-- In every COMMITTED transaction of the world machine each deposit,
    borrow, withdrawal and repayment ran on a reached state in which its bank was neither paused nor killed by bankruptcy (and, for
    deposits and borrows, not reduce-only) — brackets suspend health checks, never the operational-state gate -/
theorem world_tx_no_instruction_touches_a_paused_or_killed_bank {w w' : WState} {tx : List TOp} (h : w.runTx tx = some w') (i : Nat) :
    (∀ ai bi signer amount upTo, tx[i]? = some (.ix (.deposit ai bi signer amount upTo)) →
      ∃ (wi : WState) (b : WBank), w.before tx i = some wi ∧ wi.banks[bi]? = some b ∧ Gate.OpState.ofInt b.v.opState = some .operational) ∧
    (∀ ai bi signer amount, tx[i]? = some (.ix (.borrow ai bi signer amount)) →
      ∃ (wi : WState) (b : WBank), w.before tx i = some wi ∧ wi.banks[bi]? = some b ∧ Gate.OpState.ofInt b.v.opState = some .operational) ∧
    (∀ ai bi signer amount all vault, tx[i]? = some (.ix (.withdraw ai bi signer amount all vault)) →
      ∃ (wi : WState) (b : WBank), w.before tx i = some wi ∧ wi.banks[bi]? = some b ∧
        (Gate.OpState.ofInt b.v.opState = some .operational ∨ Gate.OpState.ofInt b.v.opState = some .reduceOnly)) ∧
    (∀ ai bi signer amount all, tx[i]? = some (.ix (.repay ai bi signer amount all)) →
      ∃ (wi : WState) (b : WBank), w.before tx i = some wi ∧ wi.banks[bi]? = some b ∧
        (Gate.OpState.ofInt b.v.opState = some .operational ∨ Gate.OpState.ofInt b.v.opState = some .reduceOnly)) := by
  refine ⟨?_, ?_, ?_, ?_⟩
  · intro ai bi signer amount upTo hi
    obtain ⟨wi, a, b, o, hbef, _, hb, ho⟩ := tx_user_ran h hi (.deposit ..)
    exact ⟨wi, b, hbef, hb, (world_bank_state_gates _).1 amount upTo o ho⟩
  · intro ai bi signer amount hi
    obtain ⟨wi, a, b, o, hbef, _, hb, ho⟩ := tx_user_ran h hi (.borrow ..)
    exact ⟨wi, b, hbef, hb, (world_bank_state_gates _).2.1 amount o ho⟩
  · intro ai bi signer amount all vault hi
    obtain ⟨wi, a, b, o, hbef, _, hb, ho⟩ := tx_user_ran h hi (.withdraw ..)
    exact ⟨wi, b, hbef, hb, (world_bank_state_gates _).2.2.1 amount all o ho⟩
  · intro ai bi signer amount all hi
    obtain ⟨wi, a, b, o, hbef, _, hb, ho⟩ := tx_user_ran h hi (.repay ..)
    exact ⟨wi, b, hbef, hb, (world_bank_state_gates _).2.2.2 amount all o ho⟩

/-- Over every history of the world state machine a bank in the KilledByBankruptcy state stays in it
    (no instruction of the machine resets an operational state: `step_bank_frame`), so the refusals of a killed bank
    (`world_killed_or_paused_bank_untouched` and the gates above) are permanent -/
theorem world_killed_is_forever (ops : List WOp) : ∀ (w : WState) (j : Nat) (x : WBank), w.banks[j]? = some x → x.v.opState = 3 →
    ∃ x', (w.run ops).banks[j]? = some x' ∧ x'.v.key = x.v.key ∧ x'.v.opState = 3 := by
  intro w j x hx h3
  obtain ⟨x', hx', hc⟩ := run_bank_frame ops w j x hx
  exact ⟨x', hx', hc.1, hc.2.2.2.2.2.2.2.2.2.2.elim (·.trans h3) id⟩

end whole_instructions

end Mfi.Props.C14
