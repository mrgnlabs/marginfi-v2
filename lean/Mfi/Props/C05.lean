/-
  C05 — Liquidation is possible only when unhealthy, improves health, and is bounded.

  Theorems about the liquidation part of Mfi/Model/Risk.lean: `liquidationAmounts` (the amounts block of
  lending_account_liquidate, diffed by the `liq` family against the real calc_value / calc_amount / fee
  constants in the handler's order), `preLiquidationFor` / `postLiquidation` (the two conditions, whose
  maintenance valuation is diffed through the real pulse_health instruction by the `health` family), and
  the handler skeleton regenerated from the source.
-/
import Mfi.Lemmas.WorldTxL
import Mfi.Props.C04

namespace Mfi.Props.C05
open Mfi Mfi.Fx Mfi.Risk Mfi.Gen Mfi.Props.C04

theorem pre_spec {ps : List Pos} {lp : Option Pos} {pre : Int} (h : preLiquidationFor ps lp = .ok pre) :
    ∃ p, lp = some p ∧ liabEmpty p = false ∧ assetEmpty p = true ∧ pre ≤ 0 ∧
      ∃ c, components ps .maint = .ok c ∧ pre = c.assets - c.liabs :=
  preLiquidationFor_ok h

theorem post_spec {ps : List Pos} {lp : Pos} {pre post : Int} (h : postLiquidation ps lp pre = .ok post) :
    liabEmpty lp = false ∧ assetEmpty lp = true ∧ post ≤ 0 ∧ pre < post ∧
      ∃ c, components ps .maint = .ok c ∧ post = c.assets - c.liabs :=
  postLiquidation_ok h

/-- A classic liquidation passes its two conditions only if the liquidatee's
    maintenance health was NEGATIVE before, is strictly better afterwards and still not positive; the
    position in the debt bank is a debt (one unit or more) with no deposit before AND after: the repaid
    debt has not flipped into a deposit and is not exhausted. -/
theorem liquidation_window {ps ps' : List Pos} {lp : Option Pos} {lp' : Pos} {pre post : Int}
    (h1 : preLiquidationFor ps lp = .ok pre) (h2 : postLiquidation ps' lp' pre = .ok post) :
    pre < 0 ∧ pre < post ∧ post ≤ 0 ∧
    (∃ p, lp = some p ∧ liabEmpty p = false ∧ assetEmpty p = true) ∧ liabEmpty lp' = false ∧ assetEmpty lp' = true := by
  obtain ⟨p, e, a1, a2, a3, _⟩ := pre_spec h1
  obtain ⟨b1, b2, b3, b4, _⟩ := post_spec h2
  exact ⟨by omega, b4, b3, ⟨p, e, a1, a2⟩, b1, b2⟩

/-- a healthy account (maintenance health above zero) cannot be liquidated -/
theorem healthy_not_liquidatable {ps : List Pos} {c : Comps} (hc : components ps .maint = .ok c)
    (hh : c.liabs < c.assets) (lp : Option Pos) : ∀ pre, preLiquidationFor ps lp ≠ .ok pre := by
  intro pre h
  obtain ⟨_, _, _, _, h0, c', hc', e⟩ := pre_spec h
  cases hc.symm.trans hc'
  omega

/-! ### the amounts: 97.5 % to the liquidator's books, 95 % relief, 2.5 % to insurance -/

def W975 : Int := ONE - LIQUIDATION_LIQUIDATOR_FEE
def W95 : Int := ONE - (LIQUIDATION_INSURANCE_FEE + LIQUIDATION_LIQUIDATOR_FEE)

/-- 0.975 and 0.95 as I80F48 bit patterns (the fee constants are 0.025 rounded down, so the discounts are
    0.975 and 0.95 rounded up by less than one ulp) -/
theorem discounts : W975 = 274438102292890 ∧ W95 = 267401227875124 ∧
    W975 * 1000 / ONE = 975 ∧ (W975 - 1) * 1000 / ONE = 974 ∧ W95 * 1000 / ONE = 950 ∧ (W95 - 1) * 1000 / ONE = 949 := by decide

theorem subP_ok {a b r : Int} (h : subP a b = .ok r) : r = a - b := (Risk.subP_ok h).1

theorem addP_ok {a b r : Int} (h : addP a b = .ok r) : r = a + b := (Risk.addP_ok h).1

/-- `calc_amount`: value·10^d / price, rounded down by less than one ulp twice -/
theorem amount_bounds {value price d r scale : Int} (hs : exp10fx d = .ok scale) (hv : 0 ≤ value) (hp : 0 < price)
    (h : calcAmount value price d = .ok r) :
    0 ≤ r ∧ r * price ≤ value * scale ∧ value * scale < (r + 1) * price + ONE := by
  obtain ⟨sc, x, hs', _, hx, hr⟩ := calcAmount_ok h
  rw [hs] at hs'
  cases Res.pure_ok hs'
  obtain ⟨f1a, f1b⟩ := mul?_floor hx
  obtain ⟨r0, f2a, f2b⟩ := div?_floor (mul?_nonneg hv (Int.le_of_lt (exp10fx_pos hs)) hx) hp hr
  rw [Int.add_mul, Int.one_mul]
  exact ⟨r0, by omega, by omega⟩

/-- The liquidator takes on the debt equivalent of 97.5 % and the liquidatee is relieved
    of the debt equivalent of 95 % of the seized collateral's value (seized tokens × low-biased price),
    converted at the high-biased debt price — each exact up to downward rounding of less than one ulp per
    step; the difference is the insurance fee: its whole-token part is what moves to the insurance vault,
    its fraction goes to the outstanding insurance fees, nothing is lost. -/
theorem amounts_spec {n pa pl da dl sa sl : Int} {r : LiqAmounts} (hsa : exp10fx da = .ok sa) (hsl : exp10fx dl = .ok sl)
    (hn : 0 ≤ n) (hpa : 0 ≤ pa) (hpl : 0 < pl) (h : liquidationAmounts n pa pl da dl = .ok r) :
    (∃ v1 v2,
      -- seized value at 97.5 % and at 95 %
      v1 * sa * ONE ≤ n * ONE * W975 * pa ∧ n * ONE * W975 * pa < (v1 + 1) * sa * ONE + ONE * ONE + ONE * pa ∧
      v2 * sa * ONE ≤ n * ONE * W95 * pa ∧ n * ONE * W95 * pa < (v2 + 1) * sa * ONE + ONE * ONE + ONE * pa ∧
      -- converted into debt tokens at the high-biased debt price
      r.liquidator * pl ≤ v1 * sl ∧ v1 * sl < (r.liquidator + 1) * pl + ONE ∧
      r.final * pl ≤ v2 * sl ∧ v2 * sl < (r.final + 1) * pl + ONE) ∧
    r.fee = r.liquidator - r.final ∧ 0 ≤ r.fee ∧ 0 ≤ r.final ∧
    r.feeWhole = r.fee / ONE ∧ r.feeFrac = r.fee % ONE ∧ r.feeWhole * ONE + r.feeFrac = r.fee ∧
    0 ≤ r.feeFrac ∧ r.feeFrac < ONE := by
  obtain ⟨v1, v2, hv1, hliq, hv2, hfin, efee, hfee0, hu, efr⟩ := liquidationAmounts_ok h
  have hONE := ONE_pos
  have hamt : 0 ≤ ofInt n := Int.mul_nonneg hn (Int.le_of_lt hONE)
  obtain ⟨v1n, b1, b2⟩ := value_bounds hsa hamt hpa (by decide : (0 : Int) ≤ W975) hv1
  obtain ⟨v2n, b3, b4⟩ := value_bounds hsa hamt hpa (by decide : (0 : Int) ≤ W95) hv2
  obtain ⟨l0, c1, c2⟩ := amount_bounds hsl v1n hpl hliq
  obtain ⟨f0, c3, c4⟩ := amount_bounds hsl v2n hpl hfin
  have ew := (toU64?_some hu).1
  refine ⟨⟨v1, v2, b1, b2, b3, b4, c1, c2, c3, c4⟩, efee, hfee0, f0, ew, efr, ?_, ?_, ?_⟩
  · rw [ew, efr, Fx.frac, Int.emod_def, Int.mul_comm ONE]
    omega
  · rw [efr]; exact Int.emod_nonneg _ (Int.ne_of_gt hONE)
  · rw [efr]; exact Int.emod_lt_of_pos _ hONE

/-! ### the handler (skeleton regenerated from the source) -/

section tables
open Mfi.Gen.Skel

/-- the pre-condition (with both banks accrued) precedes every balance move; both prices are checked
    positive before the amounts are used; the seized amount is checked against the liquidatee's deposit
    before it is withdrawn (the collateral cannot flip into a debt); the post-condition on the liquidatee
    follows the last balance move; the liquidator's initial-margin check is the last step; the insurance
    fee leaves the liquidity vault under the liquidity-vault authority -/
theorem liquidate_shape :
    occursBefore liquidate (· == .accrue .assetBank) (· == .healthPreLiq) = true ∧
    occursBefore liquidate (· == .accrue .liabBank) (· == .healthPreLiq) = true ∧
    occursBefore liquidate (· == .healthPreLiq) isOp = true ∧
    occursBefore liquidate (· == .zeroAssetPriceCheck) isOp = true ∧
    occursBefore liquidate (· == .zeroLiabPriceCheck) isOp = true ∧
    (liquidate.filter isOp) = [.op .withdrawIgnoreCap, .op .withdrawIgnoreCap, .op .depositIgnoreCap, .op .repay] ∧
    (match lastIdx liquidate isOp, lastIdx liquidate (· == .healthPostLiq) with
      | some o, some p => decide (o < p) | _, _ => false) = true ∧
    liquidate.getLast? = some .healthInit ∧
    (liquidate.filter (isSigner .insurance)).length = 0 ∧ (liquidate.filter (isSigner .liquidity)).length = 1 ∧
    liquidate.contains .overLiqCheck = true := by decide

/-- every one of these calls is unconditional: none sits inside an `if`, a match arm, a loop or a closure —
    in particular the liquidator's closing initial-margin check and the two liquidatee conditions -/
theorem liquidate_unconditional :
    allUnconditional liquidate_cond = true ∧ liquidate_cond.length = liquidate.length := by decide

/-- both accounts must not be in a flash loan (risk-engine entry points), the liquidatee's liquidation and
    the liquidator's authorization are account constraints (C08) -/
theorem liquidate_refuses_flashloan :
    re_pre_liquidation.head? = some (.acctFlag .inFlashloan) ∧ re_post_liquidation.head? = some (.acctFlag .inFlashloan) := by
  decide

end tables

/-! ### the whole accounting block of the real instruction (`Mfi/Model/Ix.lean`, diffed bit for bit by the `liqix` family) -/

/-- An accepted liquidation (a) prices with positive prices only, (b) evaluates the
    amounts block — to which `amounts_spec` / `amount_bounds` apply — with each bank's BALANCE decimals on the banks as
    accrued to the current time, (c) moves exactly `liquidator` onto the liquidator's debt-bank position, `final` off
    the liquidatee's, the seized amount between the two collateral positions, and (d) sends the whole tokens of the
    difference to the insurance vault and books its fraction as outstanding insurance fees. -/
theorem liquidate_uses_the_amounts {irA irL : Interest.IrCalc} {now : Int} {a0 l0 : Bank.Bank}
    {q1 q3 : Option Bank.Balance} {x2 x4 : Bank.Balance} {amt pa pl : Int} {o : Ix.LiqOut}
    (h : Ix.liquidate irA irL now a0 l0 q1 x2 q3 x4 amt pa pl = .ok o) :
    ∃ a1 l1 amts r1 r2 r3 r4,
      Bank.accrueInterest a0 irA now = .ok a1 ∧ Bank.accrueInterest l0 irL now = .ok l1 ∧ 0 < pa ∧ 0 < pl ∧
      liquidationAmounts amt pa pl (Bank.balanceDecimals a1) (Bank.balanceDecimals l1) = .ok amts ∧
      Bank.decreaseBalance l1 (q1.getD (Ix.freshBalance l1 now)) now amts.liquidator .bypassBorrowLimit = .ok r1 ∧
      Bank.decreaseBalance a1 x2 now (ofInt amt) .bypassBorrowLimit = .ok r2 ∧
      Bank.increaseBalance r2.1 (q3.getD (Ix.freshBalance r2.1 now)) now (ofInt amt) .bypassDepositLimit = .ok r3 ∧
      Bank.increaseBalance r1.1 x4 now amts.final .repayOnly = .ok r4 ∧
      o.insuranceTokens = amts.feeWhole ∧ o.liabBank.feeI = r4.1.feeI + amts.feeFrac ∧
      o.lqLiab = r1.2 ∧ o.leAsset = r2.2 ∧ o.lqAsset = r3.2 ∧ o.leLiab = r4.2 := by
  unfold Ix.liquidate at h
  apply Res.bind_elim h; clear h; intro a1 ha h
  apply Res.bind_elim h; clear h; intro l1 hl h
  apply Res.bind_elim h; clear h; intro _ hpa h
  apply Res.bind_elim h; clear h; intro _ hpl h
  apply Res.bind_elim h; clear h; intro amts hamts h
  apply Res.bind_elim h; clear h; intro r1 h1 h
  apply Res.bind_elim h; clear h; intro pre _ h
  apply Res.bind_elim h; clear h; intro _ _ h
  apply Res.bind_elim h; clear h; intro r2 h2 h
  apply Res.bind_elim h; clear h; intro r3 h3 h
  apply Res.bind_elim h; clear h; intro r4 h4 h
  apply Res.bind_elim h; clear h; intro f hf h
  cases Res.pure_ok h
  exact ⟨a1, l1, amts, r1, r2, r3, r4, ha, hl, of_decide_eq_true (Bank.chk_ok hpa), of_decide_eq_true (Bank.chk_ok hpl), hamts,
    h1, h2, h3, h4, rfl, (add?_some (Bank.math_ok hf)).1, rfl, rfl, rfl, rfl⟩

example : ∃ r, liquidationAmounts 1000000 (10 * ONE) (2 * ONE) 6 6 = .ok r ∧ r.final < r.liquidator ∧
    4874999 * ONE < r.liquidator ∧ r.liquidator < 4875001 * ONE ∧ 4749999 * ONE < r.final ∧ r.final < 4750001 * ONE :=
  ⟨_, by rfl, by decide, by decide, by decide, by decide, by decide⟩

/-- the liquidation amounts (calc_value / calc_amount) divide and multiply by rows of the scaling table: that table is exactly the powers of ten 10^0 .. 10^23 as I80F48 (regenerated from the real
    constants on every run; the model computes its own powers of ten and is diffed against the real functions across
    ALL 24 decimals) -/
theorem scaling_table_is_powers_of_ten : Mfi.Gen.EXP_10_I80F48 = Mfi.Fx.POW10FX := Mfi.ConstL.exp10_table_exact

section whole_instructions
open Mfi Mfi.World Mfi.Gen Mfi.Gen.Acc Mfi.Risk

theorem stateOf_ok {op : Int} {k : Gate.Kind} (h : stateOf op k = .ok ()) :
    ∃ s, Gate.OpState.ofInt op = some s ∧ Gate.validateBankState s k = none :=
  World.stateOf_ok h

/-- `lending_account_liquidate` goes through only
    * in a group that is not paused; both banks and both accounts belong to it; the debt bank is one of the program's own;
      neither account is in receivership; the signer is entitled to act for the LIQUIDATOR (authority, or group admin of a
      frozen account — no receivership path);
    * for a positive amount, two different banks, neither paused nor killed;
    * when the engine's pre-condition holds on the liquidatee's portfolio with both banks ACCRUED — so maintenance health
      was negative and the position in the debt bank is a pure debt (`liquidation_window`);
    * at a positive low-biased collateral price and a positive high-biased debt price;
    * when, after the four balance moves, the engine's post-condition holds on the liquidatee's portfolio AS LEFT (health
      strictly better, still not positive, the debt neither flipped nor exhausted);
    * and the liquidator's portfolio as left passes the initial-margin check (unless it is inside a flash loan, whose end
      enforces it). -/
theorem world_liquidate_spec {c : LiqCtx} {amount : Int} {o : LiqOutW} (h : World.liquidate c amount = .ok o) :
    (c.g.paused = false ∧ c.ab.group = c.g.key ∧ c.lb.group = c.g.key ∧ c.lq.group = c.g.key ∧ c.le.group = c.g.key ∧
      tagIs .marginfi c.lb.books.assetTag = true ∧
      hasFlag c.lq.flags ACCOUNT_IN_RECEIVERSHIP = false ∧ hasFlag c.le.flags ACCOUNT_IN_RECEIVERSHIP = false ∧
      Auth.notFrozenForAuthority (acctView c.lq.authority c.lq.flags) c.signer = true ∧
      Auth.isSignerAuthorized (acctView c.lq.authority c.lq.flags) c.g.admin c.signer false = true) ∧
    0 < amount ∧ c.ab.key ≠ c.lb.key ∧
    (∃ s, Gate.OpState.ofInt c.ab.opState = some s ∧ Gate.validateBankState s .failsInPausedState = none) ∧
    (∃ s, Gate.OpState.ofInt c.lb.opState = some s ∧ Gate.validateBankState s .failsInPausedState = none) ∧
    hasFlag c.le.flags ACCOUNT_IN_FLASHLOAN = false ∧
    ∃ a l ps pre ap lp ps' lp' post,
      Bank.accrueInterest c.ab.books c.ab.ir c.now = .ok a ∧ Bank.accrueInterest c.lb.books c.lb.ir c.now = .ok l ∧
      portfolio2 c.risk (Account.sortBalances c.le.slots) c.ab.key a c.lb.key l = .ok ps ∧
      preLiquidationFor ps (posOf ps (Account.sortBalances c.le.slots) c.lb.key) = .ok pre ∧
      feedPrice c.risk c.ab.key .low = .ok ap ∧ 0 < ap ∧ feedPrice c.risk c.lb.key .high = .ok lp ∧ 0 < lp ∧
      portfolio2 c.risk o.leSlots c.ab.key o.assetBooks c.lb.key o.liabBooks = .ok ps' ∧
      postLiquidation ps' lp' pre = .ok post ∧
      pre < 0 ∧ pre < post ∧ post ≤ 0 ∧
      (hasFlag c.lq.flags ACCOUNT_IN_FLASHLOAN = true ∨
        ∃ qs, portfolio2 c.risk o.lqSlots c.ab.key o.assetBooks c.lb.key o.liabBooks = .ok qs ∧ checkInitHealth qs = .ok ()) := by
  obtain ⟨t, k⟩ := liquidate_ok h
  have hw := liquidation_window k.pre k.post
  exact ⟨⟨k.notPaused, k.groups.1, k.groups.2.1, k.groups.2.2.1, k.groups.2.2.2, k.ownTag, k.noRecv.1, k.noRecv.2, k.notFrozen, k.signer⟩,
    k.positive, k.banks, stateOf_ok k.stateA, stateOf_ok k.stateL, k.leNoFlash,
    t.a, t.l, t.ps, t.pre, t.ap, t.lp, t.ps', t.lp', t.post, k.accA, k.accL, k.before, k.pre, k.priceA.1, k.priceA.2, k.priceL.1, k.priceL.2,
    k.after, k.post, hw.1, hw.2.1, hw.2.2.1, k.lqHealth⟩

end whole_instructions

section whole_instructions
open Mfi Mfi.World Mfi.Gen Mfi.Risk

/-- Every classic liquidation of a COMMITTED transaction of the world
    machine — whatever else the transaction contains, the liquidator inside a flash loan or not — ran on a reached state on which
    the liquidatee's maintenance health, with both banks accrued, was NEGATIVE beforehand, and left it strictly better and still
    not positive; the liquidatee was neither in receivership nor inside a flash loan -/
theorem world_tx_every_liquidation_is_of_an_unhealthy_account {w w' : WState} {tx : List TOp} (h : w.runTx tx = some w')
    {i qi ei abi lbi signer : Nat} {amount : Int} (hi : tx[i]? = some (.ix (.liquidate qi ei abi lbi signer amount))) :
    ∃ (c : LiqCtx) (o : LiqOutW),
      (∃ (wi : WState) (lq le : AcctV) (ab lb : WBank), w.before tx i = some wi ∧ wi.accts[qi]? = some lq ∧ wi.accts[ei]? = some le ∧
        wi.banks[abi]? = some ab ∧ wi.banks[lbi]? = some lb ∧ c = wi.liqCtx lq le ab lb signer) ∧
      World.liquidate c amount = .ok o ∧ 0 < amount ∧
      hasFlag c.le.flags ACCOUNT_IN_RECEIVERSHIP = false ∧ hasFlag c.le.flags ACCOUNT_IN_FLASHLOAN = false ∧
      ∃ a l ps pre ps' lp' post,
        Bank.accrueInterest c.ab.books c.ab.ir c.now = .ok a ∧ Bank.accrueInterest c.lb.books c.lb.ir c.now = .ok l ∧
        portfolio2 c.risk (Account.sortBalances c.le.slots) c.ab.key a c.lb.key l = .ok ps ∧
        preLiquidationFor ps (posOf ps (Account.sortBalances c.le.slots) c.lb.key) = .ok pre ∧
        portfolio2 c.risk o.leSlots c.ab.key o.assetBooks c.lb.key o.liabBooks = .ok ps' ∧
        postLiquidation ps' lp' pre = .ok post ∧
        pre < 0 ∧ pre < post ∧ post ≤ 0 := by
  obtain ⟨wi, lq, le, ab, lb, o, hbef, hq, he, hab, hlb, ho⟩ := tx_liquidate_ran h hi
  obtain ⟨t, k⟩ := liquidate_ok ho
  have hw := liquidation_window k.pre k.post
  exact ⟨_, o, ⟨wi, lq, le, ab, lb, hbef, hq, he, hab, hlb, rfl⟩, ho, k.positive, k.noRecv.2, k.leNoFlash, t.a, t.l, t.ps, t.pre, t.ps', t.lp',
    t.post, k.accA, k.accL, k.before, k.pre, k.after, k.post, hw.1, hw.2.1, hw.2.2.1⟩

/-- the amounts the whole-instruction model computes (`World.liqAmountsLate`, the handler's own order: the insurance fee is
    converted to whole tokens only after the third balance move) are the amounts of `Risk.liquidationAmounts`, about which
    `amounts_spec` / `amount_bounds` speak: same liquidator side, same liquidatee relief, same fee, the whole part to the
    insurance vault and the fraction to the outstanding insurance fees -/
theorem world_liquidation_amounts_are_the_amounts {amount ap lp dA dL lq fin fee w : Int}
    (h : liqAmountsLate amount ap lp dA dL = .ok (lq, fin, fee)) (hw : Fx.toU64? fee = some w) :
    liquidationAmounts amount ap lp dA dL = .ok { liquidator := lq, final := fin, fee := fee, feeWhole := w, feeFrac := Fx.frac fee } := by
  unfold liqAmountsLate at h
  unfold liquidationAmounts
  apply Res.bind_elim h; clear h; intro fees h1 h
  apply Res.bind_elim h; clear h; intro fd h2 h
  apply Res.bind_elim h; clear h; intro ld h3 h
  apply Res.bind_elim h; clear h; intro v1 h4 h
  apply Res.bind_elim h; clear h; intro l1 h5 h
  apply Res.bind_elim h; clear h; intro v2 h6 h
  apply Res.bind_elim h; clear h; intro f1 h7 h
  apply Res.bind_elim h; clear h; intro fe h8 h
  obtain ⟨hneg, h⟩ := Res.of_ite_error h
  cases Res.pure_ok h
  simp only [h1, h2, h3, h4, h5, h6, h7, h8, bind, Except.bind, hneg, if_false, hw]

end whole_instructions

end Mfi.Props.C05
