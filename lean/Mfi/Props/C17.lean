/-
  C17 — Caps and utilization: limits hold after every user action.
  Theorems about Mfi/Model/Bank.lean (wrapper + bank operations diffed against the real
  BankAccountWrapper / BankImpl code by the `wrapper` and `bank` families).
-/
import Mfi.Lemmas.ConstL
import Mfi.Lemmas.SkelL
import Mfi.Lemmas.TagL
import Mfi.Lemmas.WorldLedger
import Mfi.Lemmas.WorldTxL

namespace Mfi.Props.C17
open Mfi Mfi.Fx Mfi.Bank Mfi.Gen

theorem toU64_floor {a n : Int} (h : toU64? (floor a) = some n) : n = a / ONE ∧ 0 ≤ n ∧ n ≤ U64MAX :=
  toU64?_floor h

/-- the fields of the bank that cap/utilisation checks read -/
def SameBooks (b b' : Bank) : Prop :=
  b'.asv = b.asv ∧ b'.lsv = b.lsv ∧ b'.depositLimit = b.depositLimit ∧ b'.borrowLimit = b.borrowLimit ∧
  b'.assetTag = b.assetTag ∧ b'.mintDecimals = b.mintDecimals

/-- `change_asset_shares`: on success with a positive share change on a capped bank (no bypass),
    the new total deposits are strictly below the limit. -/
theorem changeAsset_below_limit {b b' : Bank} {s : Int} (h : changeAssetShares b s false = .ok b')
    (hs : 0 < s) (hact : b.depositLimit ≠ U64MAX) :
    ∃ t lim, assetAmount b' b'.sa = .ok t ∧ depositLimitFx b' = .ok lim ∧ t < lim :=
  (changeAsset_ok h).2.2.2 hs rfl hact

/-- `change_liability_shares`: same for the borrow cap -/
theorem changeLiab_below_limit {b b' : Bank} {s : Int} (h : changeLiabShares b s false = .ok b')
    (hs : 0 < s) (hact : b.borrowLimit ≠ U64MAX) :
    ∃ t, liabAmount b' b'.sl = .ok t ∧ t < ofInt b'.borrowLimit :=
  (changeLiab_ok h).2.2.2 hs rfl hact

/-- `check_utilization_ratio` succeeds only if total deposits ≥ total debt -/
theorem checkUtil_ok {b : Bank} (h : checkUtilization b = .ok ()) :
    ∃ ta tl, assetAmount b b.sa = .ok ta ∧ liabAmount b b.sl = .ok tl ∧ tl ≤ ta := by
  unfold checkUtilization at h
  obtain ⟨ta, h1, h⟩ := Res.bind_ok h
  obtain ⟨tl, h2, h⟩ := Res.bind_ok h
  exact ⟨ta, tl, h1, h2, Int.not_lt.1 (Res.of_ite_error h).1⟩

/-- After any successful (non-bypass) balance increase that minted deposit
    shares on a bank with an active deposit limit, total deposits are strictly below the limit. -/
theorem deposit_below_limit {b0 b' : Bank} {x0 x' : Balance} {now delta : Int} {t : IncType}
    (h : increaseBalance b0 x0 now delta t = .ok (b', x')) (ht : t ≠ .bypassDepositLimit)
    (hact : b0.depositLimit ≠ U64MAX) (hminted : b0.sa < b'.sa) :
    ∃ tot lim, assetAmount b' b'.sa = .ok tot ∧ depositLimitFx b' = .ok lim ∧ tot < lim := by
  obtain ⟨r, da, dl, lc, bc, e, hca, rfl, -⟩ := increase_closed h
  rw [show (t == IncType.bypassDepositLimit) = false by simp [ht]] at hca
  have hpos : 0 < da := by have : b0.sa < b0.sa + da := hminted; omega
  -- the bank that passed the check differs from `b'` in debt shares and position counters, which the check does not read
  obtain ⟨tot, lim, h1, h2, h3⟩ := changeAsset_below_limit hca hpos hact
  exact ⟨tot, lim, h1, by unfold depositLimitFx at h2 ⊢; exact h2, h3⟩

/-- After any successful non-bypass balance decrease that minted debt
    shares on a bank with an active borrow limit, total debt is strictly below the limit. -/
theorem borrow_below_limit {b0 b' : Bank} {x0 x' : Balance} {now delta : Int} {t : DecType}
    (h : decreaseBalance b0 x0 now delta t = .ok (b', x')) (ht : t ≠ .bypassBorrowLimit)
    (hact : b0.borrowLimit ≠ U64MAX) (hminted : b0.sl < b'.sl) :
    ∃ tot, liabAmount b' b'.sl = .ok tot ∧ tot < ofInt b'.borrowLimit := by
  obtain ⟨r, da, dl, lc, bc, e, hcl, -, rfl, -⟩ := decrease_closed h
  rw [show (t == DecType.bypassBorrowLimit) = false by simp [ht]] at hcl
  have hpos : 0 < dl := by have : b0.sl < b0.sl + dl := hminted; omega
  obtain ⟨tot, h1, h2⟩ := changeLiab_below_limit hcl hpos hact
  exact ⟨tot, h1, h2⟩

/-- After any successful withdraw or borrow (every decrease except the
    liquidation bypass) the bank's total deposits are at least its total debt. -/
theorem utilization_after {b0 b' : Bank} {x0 x' : Balance} {now delta : Int} {t : DecType}
    (h : decreaseBalance b0 x0 now delta t = .ok (b', x')) (ht : t ≠ .bypassBorrowLimit) :
    ∃ ta tl, assetAmount b' b'.sa = .ok ta ∧ liabAmount b' b'.sl = .ok tl ∧ tl ≤ ta := by
  obtain ⟨r, da, dl, lc, bc, e, -, hu, rfl, -⟩ := decrease_closed h
  exact checkUtil_ok (hu ht)

def cappedBank : Bank :=
  { asv := ONE, lsv := ONE, sa := 100 * ONE, sl := 0, feeI := 0, feeG := 0, feeP := 0, depositLimit := 100,
    borrowLimit := 0, flags := 0, assetTag := 0, mintDecimals := 6, emissionsRate := 0, emissionsRemaining := 0,
    lendCnt := 1, borrowCnt := 0, lastUpdate := 0, cacheAccum := 0, cacheFor := 0 }
def freshBal : Balance := { active := true, tag := 0, a := 0, l := 0, emis := 0, lastUpdate := 0 }

/-- The two bypass modes exist and skip the respective cap — the
    explicit exception the property names (witness: a bank at its deposit limit still accepts a
    bypass deposit). -/
theorem liquidation_may_exceed :
    (increaseBalance cappedBank freshBal 0 (5 * ONE) .depositOnly).isOk = false ∧
    (increaseBalance cappedBank freshBal 0 (5 * ONE) .bypassDepositLimit).isOk = true := by decide

/-- Bank level: if the remaining capacity is
    computed on the bank state the deposit is then applied to (i.e. after interest accrual — the
    order `lending_account_deposit` uses since `fix: accrue interest before computing the remaining
    deposit capacity`), depositing any amount up to that capacity cannot fail with
    `BankAssetCapacityExceeded`. -/
theorem capacity_deposit_never_exceeds {b : Bank} {c d s : Int}
    (hcap : remainingDepositCapacity b = .ok c) (hact : b.depositLimit ≠ U64MAX)
    (hd0 : 0 < d) (hdc : d ≤ c) (hasv : 0 < b.asv) (hsa : 0 ≤ b.sa)
    (hs : assetShares b (ofInt d) = .ok s) :
    changeAssetShares b s false ≠ .error (.err E.BankAssetCapacityExceeded) := by
  intro hfail
  rcases remainingDepositCapacity_ok hcap with ⟨hu, _⟩ | ⟨_, cur, lim, hcur, hlim, ⟨_, rfl⟩ | ⟨_, rfl, _, _⟩⟩
  · exact hact hu
  · omega
  · -- failing means limit ≤ ⌊(sa + s)·asv⌋; but s·asv ≤ d·2^96, so that total is at most cur + d·2^48 ≤ limit − 2^48
    obtain ⟨tot, htot, hge⟩ := changeAsset_exceeded hlim hfail
    have hsle : s * b.asv ≤ ofInt d * ONE :=
      assetShares_eq hs ▸ sharesOf_mul_le (Int.mul_nonneg (le_of_lt hd0) (le_of_lt ONE_pos)) (le_of_lt hasv)
    have htle : tot ≤ cur + d * ONE := by
      rw [(mul?_some htot).1, (mul?_some (math_ok hcur)).1, ← Int.add_mul_ediv_right _ _ (ne_of_gt ONE_pos), Int.add_mul]
      exact Int.ediv_le_ediv ONE_pos (Int.add_le_add_left hsle _)
    have hcone := mulfloor_le (lim - cur - ONE)
    have hdone : d * ONE ≤ (lim - cur - ONE) / ONE * ONE := Int.mul_le_mul_of_nonneg_right hdc (le_of_lt ONE_pos)
    have := ONE_pos
    omega

/-! ### instruction level (`Mfi/Model/Ix.lean`, diffed against the real `lending_account_deposit` by the `ixf` family) -/

/-- A deposit flagged 'up to limit' books at most the amount asked for and at most the
    remaining capacity of the bank AS ACCRUED to the current time; an unflagged deposit books exactly what was asked -/
theorem deposit_up_to_limit_amount {b : Bank} {amount amt : Int} {up : Bool} (h : Ix.depositAmt b amount up = .ok amt) :
    (up = true → ∃ cap, remainingDepositCapacity b = .ok cap ∧ amt = min amount cap ∧ amt ≤ amount ∧ amt ≤ cap) ∧
    (up = false → amt = amount) := by
  unfold Ix.depositAmt at h
  cases up with
  | true =>
    obtain ⟨cap, hc, e⟩ := Res.map_ok h
    exact ⟨fun _ => ⟨cap, hc, e.symm, by omega, by omega⟩, fun hu => by cases hu⟩
  | false => exact ⟨fun hu => (by cases hu), fun _ => (Res.pure_ok h).symm⟩

/-- The whole instruction: whatever `lending_account_deposit(amount, up_to_limit = true)` does, the capacity it
    clamps to is the one of the accrued bank, and a zero clamp is a successful no-op on positions -/
theorem ix_deposit_up_to_limit {e : Ix.Env} {b b' : Bank} {bal x' : Option Balance} {amount t : Int}
    (h : Ix.deposit e b bal amount true = .ok (b', x', t)) :
    ∃ b1 cap, accrueInterest b e.ir e.now = .ok b1 ∧ remainingDepositCapacity b1 = .ok cap ∧
      (min amount cap = 0 → b' = b1 ∧ x' = bal ∧ t = 0) ∧
      (min amount cap ≠ 0 → Ix.depositCore e b1 bal (min amount cap) = .ok (b', x', t)) := by
  unfold Ix.deposit at h
  obtain ⟨b1, hb1, h⟩ := Res.bind_ok h
  obtain ⟨amt, ha, h⟩ := Res.bind_ok h
  obtain ⟨cap, hcap, hamt, _, _⟩ := (deposit_up_to_limit_amount ha).1 rfl
  refine ⟨b1, cap, hb1, hcap, ?_, ?_⟩
  · intro h0
    rw [hamt, h0] at h
    simp only [↓reduceIte] at h
    cases h
    exact ⟨rfl, rfl, rfl⟩
  · intro h0
    rw [hamt] at h
    simp only [h0, ↓reduceIte] at h
    exact h

open Mfi.Gen.Skel in
/-- Over the skeleton regenerated from deposit.rs: the remaining
    capacity used for "deposit up to limit" is computed AFTER `accrue_interest` and before the
    wrapper deposit — so `capacity_deposit_never_exceeds` applies to the state the deposit is
    applied to. (True since `fix: accrue interest before computing the remaining deposit
    capacity`; before it the order was capacity, accrue — replayed by the instruction-level monitor.) -/
theorem capacity_after_accrual :
    occursBefore deposit (isAccrue .bank) (· == .capacity) = true ∧
    occursBefore deposit (· == .capacity) isOp = true := by decide

/-- the deposit-limit scaling of Drift banks uses the table: that table is exactly the powers of ten 10^0 .. 10^23 as I80F48 (regenerated from the real
    constants on every run; the model computes its own powers of ten and is diffed against the real functions across
    ALL 24 decimals) -/
theorem scaling_table_is_powers_of_ten : Mfi.Gen.EXP_10_I80F48 = Mfi.Fx.POW10FX := Mfi.ConstL.exp10_table_exact

/-- the token-denominated accounting this file is about is the only accounting the standard instructions can reach:
    they are constrained to the program's own banks (constraint table regenerated from the source; Mfi.TagL) -/
theorem standard_instructions_only_on_own_banks : Mfi.TagL.OwnBanks :=
  Mfi.TagL.standard_instructions_only_on_own_banks

section whole_instructions
open Mfi Mfi.World Mfi.Gen Mfi.Gen.Acc Mfi.Bank

theorem borrowCore_util {e : Ix.Env} {b b' : Bank} {x x' : Balance} {amount t : Int}
    (h : borrowCore e b x amount = .ok (b', x', t)) :
    ∃ ta tl, assetAmount b' b'.sa = .ok ta ∧ liabAmount b' b'.sl = .ok tl ∧ tl ≤ ta := by
  obtain ⟨_, b2, _, _, _, _, hd, rfl, _⟩ := borrowCore_spec h
  exact (utilization_after hd (by decide) :)

/-- After a successful `lending_account_borrow` (the whole instruction, origination
    fee included) the bank's total deposits are at least its total debt -/
theorem world_borrow_keeps_deposits_above_debt {c : Ctx} {amt : Int} {o : Out} (h : World.borrow c amt = .ok o) :
    ∃ ta tl, assetAmount o.books o.books.sa = .ok ta ∧ liabAmount o.books o.books.sl = .ok tl ∧ tl ≤ ta := by
  obtain ⟨b, slots, i, x, x', _, _, _, _, _, hcore, _⟩ := (borrow_ok h).core
  exact borrowCore_util hcore

theorem withdrawAll_util {b b' : Bank} {x x' : Balance} {now t : Int} (h : withdrawAll b x now = .ok (b', x', t)) :
    ∃ ta tl, assetAmount b' b'.sa = .ok ta ∧ liabAmount b' b'.sl = .ok tl ∧ tl ≤ ta :=
  checkUtil_ok (withdrawAll_closed h).2.2.2.2.2.2.2.2

theorem world_withdraw_keeps_deposits_above_debt {c : Ctx} {amt : Int} {all : Bool} {o : Out} (h : World.withdraw c amt all = .ok o) :
    ∃ ta tl, assetAmount o.books o.books.sa = .ok ta ∧ liabAmount o.books o.books.sl = .ok tl ∧ tl ≤ ta := by
  obtain ⟨price, b, i, s, x', pre, _, _, _, hcore, _⟩ := (withdraw_ok h).core
  rcases withdrawCore_spec hcore with ⟨_, hw⟩ | ⟨_, _, hd⟩
  · exact withdrawAll_util hw
  · exact utilization_after hd (by decide)

/-- After a successful `lending_account_deposit` (the whole instruction: accrual, the
    'up to limit' clamp, the wrapper) that minted deposit shares on a bank with an active deposit limit, the bank's total
    deposits — at the share value accrued to now — are strictly below the limit -/
theorem world_deposit_below_limit {c : Ctx} {amount : Int} {upTo : Bool} {o : Out} (h : World.deposit c amount upTo = .ok o)
    (hact : c.b.books.depositLimit ≠ U64MAX) (hminted : c.b.books.sa < o.books.sa) :
    ∃ tot lim, assetAmount o.books o.books.sa = .ok tot ∧ depositLimitFx o.books = .ok lim ∧ tot < lim := by
  obtain ⟨b, amt, hb, _, hcore⟩ := (deposit_ok h).core
  have ht := accrue_totals hb
  have hl := accrue_limits hb
  split at hcore
  · obtain ⟨_, hbooks, _⟩ := hcore
    rw [hbooks, ht.1] at hminted; omega
  · obtain ⟨slots, i, s, x', _, _, hd, _⟩ := hcore
    obtain ⟨x2, hinc, _⟩ := depositCore_spec hd
    exact deposit_below_limit hinc (by decide) (by rw [hl.1]; exact hact) (by rw [ht.1]; exact hminted)

/-- What a deposit flagged 'up to limit' books is at most the
    amount asked for and at most the remaining capacity of the bank as accrued to now; when that is zero the instruction
    succeeds and leaves every position and the bank's totals as accrual left them (it never fails for exceeding the limit:
    `capacity_deposit_never_exceeds` is the bank-level half) -/
theorem world_deposit_up_to_limit_books_at_most_the_capacity {c : Ctx} {amount : Int} {o : Out}
    (h : World.deposit c amount true = .ok o) :
    ∃ b cap, accrueInterest c.b.books c.b.ir c.now = .ok b ∧ remainingDepositCapacity b = .ok cap ∧
      (min amount cap = 0 → o.slots = c.a.slots ∧ o.books = b ∧ o.tokens = 0) ∧
      (min amount cap ≠ 0 → ∃ slots i s x', Account.findOrCreate c.a.slots c.b.key b.assetTag c.now = .ok (slots, i) ∧
          slots[i]? = some s ∧ Ix.depositCore c.ixEnv b (some (toBal s)) (min amount cap) = .ok (o.books, x', o.tokens)) := by
  obtain ⟨b, amt, hb, ha, hcore⟩ := (deposit_ok h).core
  obtain ⟨cap, hcap, hamt, _, _⟩ := (deposit_up_to_limit_amount ha).1 rfl
  refine ⟨b, cap, hb, hcap, ?_, ?_⟩
  · intro h0
    rw [hamt, h0] at hcore
    simpa using hcore
  · intro h0
    rw [hamt] at hcore
    simp only [h0, ↓reduceIte] at hcore
    obtain ⟨slots, i, s, x', h1, h2, h3, _⟩ := hcore
    exact ⟨slots, i, s, x', h1, h2, h3⟩

theorem borrowCore_below_limit {e : Ix.Env} {b b' : Bank} {x x' : Balance} {amount t : Int}
    (h : borrowCore e b x amount = .ok (b', x', t)) (hact : b.borrowLimit ≠ U64MAX) (hminted : b.sl < b'.sl) :
    ∃ tot, liabAmount b' b'.sl = .ok tot ∧ tot < ofInt b'.borrowLimit := by
  obtain ⟨_, b2, _, _, _, _, hd, rfl, _⟩ := borrowCore_spec h
  exact (borrow_below_limit hd (by decide) hact hminted :)

/-- After a successful `lending_account_borrow` (the whole instruction, origination fee
    included in the debt) that minted debt shares on a bank with an active borrow limit, the bank's total debt — at the share
    value accrued to now — is strictly below the limit -/
theorem world_borrow_below_limit {c : Ctx} {amt : Int} {o : Out} (h : World.borrow c amt = .ok o)
    (hact : c.b.books.borrowLimit ≠ U64MAX) (hminted : c.b.books.sl < o.books.sl) :
    ∃ tot, liabAmount o.books o.books.sl = .ok tot ∧ tot < ofInt o.books.borrowLimit := by
  obtain ⟨b, slots, i, x, x', hb, _, _, _, _, hcore, _⟩ := (borrow_ok h).core
  have ht := accrue_totals hb
  have hl := accrue_limits hb
  exact borrowCore_below_limit hcore (by rw [hl.2]; exact hact) (by rw [ht.2]; exact hminted)

/-- Every borrow of a COMMITTED transaction of the world machine — inside or outside
    a flash-loan bracket, by whoever — ran on a reached state and left its bank with total deposits at least total debt, and, on a
    bank with an active borrow limit whose debt shares it raised, with total debt strictly below the limit (the flash-loan bracket
    suspends the HEALTH check, never the caps) -/
theorem world_tx_every_borrow_respects_the_caps {w w' : WState} {tx : List TOp} (h : w.runTx tx = some w')
    {i ai bi signer : Nat} {amount : Int} (hi : tx[i]? = some (.ix (.borrow ai bi signer amount))) :
    ∃ (wi : WState) (a : AcctV) (b : WBank) (o : Out), w.before tx i = some wi ∧ wi.accts[ai]? = some a ∧ wi.banks[bi]? = some b ∧
      World.borrow (wi.ctx a b signer b.v.liquidityVault 0) amount = .ok o ∧
      (∃ ta tl, assetAmount o.books o.books.sa = .ok ta ∧ liabAmount o.books o.books.sl = .ok tl ∧ tl ≤ ta) ∧
      (b.v.books.borrowLimit ≠ U64MAX → b.v.books.sl < o.books.sl →
        ∃ tot, liabAmount o.books o.books.sl = .ok tot ∧ tot < ofInt o.books.borrowLimit) := by
  obtain ⟨wi, a, b, o, hbef, ha, hb, ho⟩ := tx_user_ran h hi (.borrow ..)
  exact ⟨wi, a, b, o, hbef, ha, hb, ho, world_borrow_keeps_deposits_above_debt ho, world_borrow_below_limit ho⟩

/-- Likewise every deposit of a committed transaction that minted deposit shares on
    a bank with an active deposit limit left total deposits strictly below the limit -/
theorem world_tx_every_deposit_respects_the_limit {w w' : WState} {tx : List TOp} (h : w.runTx tx = some w')
    {i ai bi signer : Nat} {amount : Int} {upTo : Bool} (hi : tx[i]? = some (.ix (.deposit ai bi signer amount upTo))) :
    ∃ (wi : WState) (a : AcctV) (b : WBank) (o : Out), w.before tx i = some wi ∧ wi.accts[ai]? = some a ∧ wi.banks[bi]? = some b ∧
      World.deposit (wi.ctx a b signer b.v.liquidityVault 0) amount upTo = .ok o ∧
      (b.v.books.depositLimit ≠ U64MAX → b.v.books.sa < o.books.sa →
        ∃ tot lim, assetAmount o.books o.books.sa = .ok tot ∧ depositLimitFx o.books = .ok lim ∧ tot < lim) := by
  obtain ⟨wi, a, b, o, hbef, ha, hb, ho⟩ := tx_user_ran h hi (.deposit ..)
  exact ⟨wi, a, b, o, hbef, ha, hb, ho, world_deposit_below_limit ho⟩

/-- And every withdrawal of a committed transaction — the owner's, a
    liquidator's or the risk admin's inside a receivership bracket — left its bank with total deposits at least total debt -/
theorem world_tx_every_withdrawal_keeps_deposits_above_debt {w w' : WState} {tx : List TOp} (h : w.runTx tx = some w')
    {i ai bi signer : Nat} {amount vault : Int} {all : Bool} (hi : tx[i]? = some (.ix (.withdraw ai bi signer amount all vault))) :
    ∃ (wi : WState) (a : AcctV) (b : WBank) (o : Out), w.before tx i = some wi ∧ wi.accts[ai]? = some a ∧ wi.banks[bi]? = some b ∧
      World.withdraw (wi.ctx a b signer b.v.liquidityVault vault) amount all = .ok o ∧
      ∃ ta tl, assetAmount o.books o.books.sa = .ok ta ∧ liabAmount o.books o.books.sl = .ok tl ∧ tl ≤ ta := by
  obtain ⟨wi, a, b, o, hbef, ha, hb, ho⟩ := tx_user_ran h hi (.withdraw ..)
  exact ⟨wi, a, b, o, hbef, ha, hb, ho, world_withdraw_keeps_deposits_above_debt ho⟩

end whole_instructions

end Mfi.Props.C17
