/-
  C07 — Bankruptcy: only real bad debt is discharged; insurance first, rest pro rata.

  Theorems about `checkBankrupt` (Mfi/Model/Risk.lean, the eligibility test; its equity valuation is diffed
  through the real pulse_health instruction by the `health` family) and about `settleBankruptcy` /
  `socializeLoss` (Mfi/Model/Bank.lean; diffed against the REAL lending_pool_handle_bankruptcy through real
  dispatch by the `bkr` family, and socialize_loss alone by the `bank` family).
-/
import Mfi.Gen.TxLists
import Mfi.Lemmas.AccL
import Mfi.Lemmas.ConstL
import Mfi.Lemmas.RiskL
import Mfi.Lemmas.SkelL
import Mfi.Lemmas.WorldLedger
import Mfi.Lemmas.WorldTxL

namespace Mfi.Props.C07
open Mfi Mfi.Fx Mfi.Bank Mfi.Gen

/-- Eligibility: the bankruptcy assessment passes only for an account whose unweighted (equity) assets
    are worth less than its liabilities AND less than ten cents, with liabilities above dust. -/
theorem bankrupt_only_if {ps : List Risk.Pos} {a l : Int} (h : Risk.checkBankrupt ps = .ok (a, l)) :
    a < l ∧ a < BANKRUPT_THRESHOLD ∧ ZERO_AMOUNT_THRESHOLD < l ∧
    ∃ c, Risk.components ps .equity = .ok c ∧ c.assets = a ∧ c.liabs = l := by
  obtain ⟨c, hc, e1, e2, h1, h2, h3⟩ := Risk.checkBankrupt_ok h
  exact ⟨h1, h2, h3, c, hc, e1, e2⟩

theorem ten_cents : (BANKRUPT_THRESHOLD - 1) * 10 / ONE = 0 ∧ BANKRUPT_THRESHOLD * 10 / ONE = 1 := by decide

/-- who may settle: anyone if the bank opted in, otherwise only the group admin or the risk admin -/
theorem authorized_iff (p : Bool) (s adm ra : Nat) :
    bankruptcyAuthorized p s adm ra = true ↔ (p = true ∨ s = ra ∨ s = adm) := by
  unfold bankruptcyAuthorized
  simp [Bool.or_eq_true]
  tauto

theorem isubP_ok {a b r : Int} (h : Interest.subP a b = .ok r) : r = a - b := (Res.inRange_ok h).1

/-- `socialize_loss(loss)` touches nothing but the deposit share value; if the loss
    reaches the total value of deposits the share value becomes 0 and the bank is killed; otherwise the new
    share value is (total − loss)/shares rounded down: not negative, not above the old one, and the total
    value of deposits falls by the loss — short of it by less than one ulp per deposit share. -/
theorem socialize_spec {b b' : Bank} {loss : Int} {kill : Bool} (h : socializeLoss b loss = .ok (b', kill))
    (hl : 0 ≤ loss) (hsa : 0 ≤ b.sa) (hasv : 0 ≤ b.asv) :
    b' = { b with asv := b'.asv } ∧
    ((b.sa * b.asv / ONE ≤ loss ∧ b'.asv = 0 ∧ kill = true) ∨
     (loss < b.sa * b.asv / ONE ∧ 0 < b.sa ∧ 0 ≤ b'.asv ∧ b'.asv ≤ b.asv ∧ kill = (b'.asv == 0) ∧
      b.sa * b'.asv ≤ (b.sa * b.asv / ONE - loss) * ONE ∧ (b.sa * b.asv / ONE - loss) * ONE < b.sa * b'.asv + b.sa)) := by
  obtain ⟨total, ht, ⟨hle, e, hk⟩ | ⟨hgt, nsv, hn, e, hk⟩⟩ := socializeLoss_ok h
  · rw [e, ← (mul?_some ht).1]
    exact ⟨rfl, Or.inl ⟨hle, rfl, hk⟩⟩
  · have et := (mul?_some ht).1
    obtain ⟨tl, _⟩ := mul?_floor ht
    have hsapos : 0 < b.sa := by
      rcases Int.lt_or_eq_of_le hsa with h0 | h0
      · exact h0
      · rw [← h0, Int.zero_mul, Int.zero_ediv] at et; omega
    have hd0 : 0 ≤ total - loss := by omega
    obtain ⟨nn, f1, f2⟩ := div?_floor hd0 hsapos hn
    have hle : nsv ≤ b.asv := by
      -- nsv·sa ≤ (total − loss)·ONE ≤ total·ONE ≤ sa·asv
      have h3 : (total - loss) * ONE ≤ total * ONE := Int.mul_le_mul_of_nonneg_right (by omega) (Int.le_of_lt ONE_pos)
      have h4 : nsv * b.sa ≤ b.asv * b.sa := by rw [Int.mul_comm b.asv]; exact Int.le_trans f1 (Int.le_trans h3 tl)
      exact Int.le_of_mul_le_mul_right h4 hsapos
    rw [e, ← et, Int.mul_comm b.sa nsv]
    exact ⟨rfl, Or.inr ⟨hgt, hsapos, nn, hle, hk, f1, f2⟩⟩

/-- every depositor's claim is scaled by the same factor new/old share value (claims are shares × share
    value and shares are untouched) -/
theorem claims_scale_uniformly (s1 s2 asv asv' : Int) :
    (s1 * asv') * (s2 * asv) = (s2 * asv') * (s1 * asv) := by
  simp only [Int.mul_comm, Int.mul_left_comm]

theorem ceil_spec {a c : Int} (h : ceil? a = some c) : ∃ k, c = k * ONE ∧ a ≤ k * ONE ∧ k * ONE < a + ONE := by
  obtain ⟨e, h1, h2⟩ := ceil?_some h
  exact ⟨_, e, h1, h2⟩

/-- The bad debt is the account's whole debt in the bank and exceeds dust; insurance
    covers min(bad debt, available) — the whole-token amount moved is that rounded UP and never more
    than the vault can deliver; exactly the remainder is socialized; nothing is socialized when the
    insurance suffices; the books then run socialize_loss followed by a repay of the whole bad debt. -/
theorem settle_spec {b : Bank} {bal : Balance} {avail now : Int} {o : BankruptcyOut}
    (h : settleBankruptcy b bal avail now = .ok o) (ha : 0 ≤ avail) :
    liabAmount b bal.l = .ok o.badDebt ∧ ZERO_AMOUNT_THRESHOLD < o.badDebt ∧
    o.covered = min o.badDebt (avail * ONE) ∧ o.socialized = o.badDebt - o.covered ∧ 0 ≤ o.socialized ∧
    (o.socialized = 0 ↔ o.badDebt ≤ avail * ONE) ∧
    o.covered ≤ o.coveredUp * ONE ∧ o.coveredUp * ONE < o.covered + ONE ∧ o.coveredUp ≤ avail ∧
    ∃ b1, socializeLoss b o.socialized = .ok (b1, o.kill) ∧
          increaseBalance b1 bal now o.badDebt .repayOnly = .ok (o.bank, o.bal) := by
  obtain ⟨hb, hbad, ec, es, eu, _, _, hm⟩ := settleBankruptcy_ok h
  have hc1 : o.covered ≤ o.badDebt := ec ▸ Int.min_le_left _ _
  have hc2 : o.covered ≤ avail * ONE := ec ▸ Int.min_le_right _ _
  rw [Int.max_eq_left (Int.sub_nonneg.2 hc1)] at es
  obtain ⟨k1, k2⟩ := ceil_bounds o.covered
  rw [← eu] at k1 k2
  have hle : o.coveredUp ≤ avail := by
    -- coveredUp·2^48 < covered + 2^48 ≤ (avail + 1)·2^48
    have : o.coveredUp * ONE < (avail + 1) * ONE := by rw [Int.add_mul, Int.one_mul]; exact Int.lt_of_lt_of_le k2 (Int.add_le_add_right hc2 _)
    exact Int.le_of_lt_add_one (Int.lt_of_mul_lt_mul_right this (le_of_lt ONE_pos))
  refine ⟨hb, hbad, ec, es, es ▸ Int.sub_nonneg.2 hc1, ?_, k1, k2, hle, hm⟩
  rw [es, Int.sub_eq_zero, ec]
  exact ⟨fun e => e ▸ Int.min_le_right _ _, fun hle => (Int.min_eq_left hle).symm⟩

/-- After the settlement the account's debt in the bank is gone up to less than one share
    value + one ulp of value (the repay converts the bad debt back into shares, rounding down), the bank's
    debt total fell by exactly what left the position, and deposits shares / the debt share value are
    untouched. -/
theorem debt_cleared {b : Bank} {bal : Balance} {avail now : Int} {o : BankruptcyOut}
    (h : settleBankruptcy b bal avail now = .ok o) (ha : 0 ≤ avail) (hl : 0 ≤ bal.l) (hlsv : 0 < b.lsv) :
    0 ≤ o.bal.l ∧ o.bal.l * b.lsv < b.lsv + ONE ∧ o.bank.sl = b.sl - (bal.l - o.bal.l) ∧
    o.bank.sa = b.sa ∧ o.bank.lsv = b.lsv ∧ o.bal.a = bal.a := by
  obtain ⟨b1, hs, hi⟩ := settleBankruptcy_moves h
  -- socialize touches only the deposit share value
  have hb1 : b1.lsv = b.lsv ∧ b1.sl = b.sl ∧ b1.sa = b.sa := by
    rw [socializeLoss_frame hs]; exact ⟨rfl, rfl, rfl⟩
  -- the repay is of the position's whole debt: nothing goes to the deposit side, and the debt side keeps the residue of the
  -- round trip shares → amount → shares
  have m := increase_moved hi
  have ebad : o.badDebt = bal.l * b.lsv / ONE := (mul?_some (math_ok (settleBankruptcy_ok h).1)).1
  rw [hb1.1, ← ebad, Int.sub_self, Int.max_self, sharesOf_zero, Int.min_self, ebad] at m
  have h1 := sharesOf_amount_le (s := bal.l) hlsv (mulfloor_nonneg hl (le_of_lt hlsv)) (Int.le_refl _)
  have h2 := sharesOf_amount_residue hl hlsv
  refine ⟨by rw [m.l]; omega, by rw [m.l, ← Int.sub_eq_add_neg]; omega, by rw [m.sl, m.l, hb1.2.1]; omega,
    by rw [m.sa, hb1.2.2]; omega, by rw [m.lsv, hb1.1], by rw [m.a]; omega⟩

/-! ### the handler (skeleton and constraints regenerated from the source) -/

section tables
open Mfi.Gen.Skel

/-- eligibility is assessed first, the bank is accrued, insurance is moved under the insurance-vault
    authority, the loss is socialized, the whole bad debt is repaid, and only then the account is disabled;
    the account must not be in receivership or in a flash loan -/
theorem bankruptcy_shape :
    handle_bankruptcy = [.bankState .bank .failsInPausedState, .checkBankrupt, .accrue .bank, .transferOut, .signer .insurance,
                         .socializeLoss, .find, .op .repay, .updateBankCache, .setFlag .disabled] ∧
    Acc.hasCons .LendingPoolHandleBankruptcy .f_marginfi_account (.flagClear .f_marginfi_account .fl_ACCOUNT_IN_RECEIVERSHIP) = true ∧
    Acc.hasCons .LendingPoolHandleBankruptcy .f_marginfi_account (.flagClear .f_marginfi_account .fl_ACCOUNT_IN_FLASHLOAN) = true ∧
    Acc.isSigner .LendingPoolHandleBankruptcy .f_signer = true ∧
    Acc.hasOneOf .LendingPoolHandleBankruptcy .f_bank .f_group = true ∧
    Acc.hasOneOf .LendingPoolHandleBankruptcy .f_marginfi_account .f_group = true := by decide

/-- every step of the handler is unconditional (the authorization test and the kill are the only branches,
    and they contain none of these calls) -/
theorem bankruptcy_unconditional : allUnconditional handle_bankruptcy_cond = true := by decide

/-- of all account-flag writes in the program (list regenerated from the source), those of ACCOUNT_DISABLED only ever set it,
    and sit in the bankruptcy handler and the two account-transfer handlers: a settled account stays disabled -/
theorem disabled_only_by_bankruptcy_or_transfer :
    ∀ w ∈ TxL.flagWrites, w.2.2 = TxL.Flag.disabled → w.2.1 = true ∧
      (w.1 = .fn_lending_pool_handle_bankruptcy ∨ w.1 = .fn_transfer_to_new_account ∨ w.1 = .fn_transfer_to_new_account_pda) := by
  decide

/-- The insurance that pays is the bank's own: in the bankruptcy instruction the insurance vault, the
    liquidity vault that receives the cover and the insurance authority that signs are all program-derived
    addresses checked by `seeds` over the bank key: no look-alike token account can stand in for any of them,
    so "what the insurance holds" is what the BANK's insurance holds. -/
theorem bankruptcy_vaults_are_the_banks :
    ∀ f ∈ Acc.fields .LendingPoolHandleBankruptcy,
      (f.name = .f_insurance_vault ∨ f.name = .f_liquidity_vault ∨ f.name = .f_insurance_vault_authority) →
      f.hasSeeds = true := by
  decide

/-- (non-vacuity) all three seats exist in the struct -/
example : (Acc.fields .LendingPoolHandleBankruptcy).any (·.name = .f_insurance_vault) = true ∧
    (Acc.fields .LendingPoolHandleBankruptcy).any (·.name = .f_liquidity_vault) = true ∧
    (Acc.fields .LendingPoolHandleBankruptcy).any (·.name = .f_insurance_vault_authority) = true := by decide

end tables

/-- the equity valuation of the bankruptcy assessment divides by rows of the scaling table: that table is exactly the powers of ten 10^0 .. 10^23 as I80F48 (regenerated from the real
    constants on every run; the model computes its own powers of ten and is diffed against the real functions across
    ALL 24 decimals) -/
theorem scaling_table_is_powers_of_ten : Mfi.Gen.EXP_10_I80F48 = Mfi.Fx.POW10FX := Mfi.ConstL.exp10_table_exact

section whole_instructions
open Mfi Mfi.World Mfi.Gen Mfi.Gen.Acc

/-- `lending_pool_handle_bankruptcy` goes through only
    * in a group that is not paused, on an account and a bank of that group, the bank one of the program's own and neither
      paused nor killed, the account neither in receivership nor in a flash loan (regenerated account checks, interpreted);
    * for a signer who may settle: anyone if the bank opted in, else the group admin or the risk admin;
    * when the risk engine's bankruptcy assessment of the account's portfolio AS STORED passes;
    and then what it books is `Bank.settleBankruptcy` of the bank ACCRUED to the current time on the account's position in
    that bank (theorems settle_spec / debt_cleared / socialize_spec apply to it), the insurance vault pays the covered
    amount rounded up, the account is disabled, and a bank whose deposits were consumed is killed. -/
theorem world_bankruptcy_spec {c : Ctx} {available : Int} {o : BkrOut} (h : World.bankruptcy c available = .ok o) :
    c.g.paused = false ∧ c.a.group = c.g.key ∧ c.b.group = c.g.key ∧ tagIs .marginfi c.b.books.assetTag = true ∧
    hasFlag c.a.flags ACCOUNT_IN_RECEIVERSHIP = false ∧ hasFlag c.a.flags ACCOUNT_IN_FLASHLOAN = false ∧
    Bank.bankruptcyAuthorized (hasFlag c.b.books.flags PERMISSIONLESS_BAD_DEBT_SETTLEMENT_FLAG) c.signer c.g.admin c.g.riskAdmin = true ∧
    (∃ s, Gate.OpState.ofInt c.b.opState = some s ∧ Gate.validateBankState s .failsInPausedState = none) ∧
    (∃ ps eq, portfolio c c.a.slots c.b.books = .ok ps ∧ Risk.checkBankrupt ps = .ok eq) ∧
    ∃ b i x st, Bank.accrueInterest c.b.books c.b.ir c.now = .ok b ∧ Account.findIdx c.a.slots c.b.key = some i ∧
      balAt c.a.slots i = .ok x ∧ Bank.settleBankruptcy b x available c.now = .ok st ∧
      o.books = st.bank ∧ o.slots = c.a.slots.set i (ofBal c.b.key st.bal) ∧ o.insuranceTokens = st.coveredUp ∧
      o.opState = (if st.kill then 3 else c.b.opState) ∧ o.flags = c.a.flags ||| ACCOUNT_DISABLED.toNat := by
  have k := bankruptcy_ok h
  obtain ⟨b, i, s, st, hb, hi, hs, _, _, hst, rfl⟩ := k.core
  exact ⟨k.notPaused, k.acctGroup, k.bankGroup, k.ownTag, k.noRecv, k.noFlash, k.signer, bankState_ok k.state, k.bankrupt,
    b, i, toBal s, st, hb, hi, by rw [balAt, hs], hst, rfl, rfl, rfl, rfl, rfl⟩

/-- Every bankruptcy settlement of a COMMITTED transaction of the world machine ran
    on a reached state on which the risk engine's own assessment found the account bankrupt (unweighted assets below liabilities and
    below ten cents), the account was neither in receivership nor inside a flash loan, and the signer was the group admin, the risk
    admin, or anyone if the bank opted into permissionless settlement — whatever else the transaction contains -/
theorem world_tx_every_settlement_is_of_real_bad_debt {w w' : WState} {tx : List TOp} (h : w.runTx tx = some w')
    {i ai bi signer : Nat} {available : Int} (hi : tx[i]? = some (.ix (.bankruptcy ai bi signer available))) :
    ∃ (wi : WState) (a : AcctV) (b : WBank) (o : BkrOut), w.before tx i = some wi ∧ wi.accts[ai]? = some a ∧ wi.banks[bi]? = some b ∧
      World.bankruptcy (wi.ctx a b signer b.v.liquidityVault 0) available = .ok o ∧
      hasFlag a.flags ACCOUNT_IN_RECEIVERSHIP = false ∧ hasFlag a.flags ACCOUNT_IN_FLASHLOAN = false ∧
      Bank.bankruptcyAuthorized (hasFlag b.v.books.flags PERMISSIONLESS_BAD_DEBT_SETTLEMENT_FLAG) signer wi.g.admin wi.g.riskAdmin = true ∧
      ∃ ps eq, portfolio (wi.ctx a b signer b.v.liquidityVault 0) a.slots b.v.books = .ok ps ∧ Risk.checkBankrupt ps = .ok eq ∧
        eq.1 < eq.2 ∧ eq.1 < BANKRUPT_THRESHOLD := by
  obtain ⟨wi, a, b, o, hbef, ha, hb, ho⟩ := tx_bankruptcy_ran h hi
  obtain ⟨_, _, _, _, hr, hf, hauth, _, ⟨ps, eq, hps, hbk⟩, _⟩ := world_bankruptcy_spec ho
  obtain ⟨e1, e2⟩ := eq
  obtain ⟨h1, h2, _, _⟩ := bankrupt_only_if hbk
  exact ⟨wi, a, b, o, hbef, ha, hb, ho, hr, hf, hauth, ps, (e1, e2), hps, hbk, h1, h2⟩

/-- In particular a bank that is paused or was killed by an earlier bankruptcy settles nothing -/
theorem world_bankruptcy_needs_live_bank (c : Ctx) (available : Int)
    (h : Gate.OpState.ofInt c.b.opState = some .paused ∨ Gate.OpState.ofInt c.b.opState = some .killedByBankruptcy) :
    (World.bankruptcy c available).isOk = false := by
  refine Res.isOk_false fun o hr => ?_
  obtain ⟨_, _, _, _, _, _, _, ⟨s, hs, hv⟩, _⟩ := world_bankruptcy_spec hr
  -- `validate_bank_state(failsInPausedState)` refuses both states
  rcases h with h | h
  · cases hs.symm.trans h; cases hv
  · cases hs.symm.trans h; cases hv

end whole_instructions

end Mfi.Props.C07
