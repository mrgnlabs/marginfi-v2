/-
  C12 — Least privilege: each admin role changes only what it is entitled to.
  Theorems about Mfi/Model/Admin.lean (Bank::configure, configure_unfrozen_fields_only, flag updates,
  interest-only / limits-only handlers, the deleverage withdraw window), which the `admin` family diffs
  against the real functions; field-level frames of the real instructions (incl. everything the model
  does not carry: shares, vault keys, e-mode, oracle) are checked through real dispatch by the C12 monitor.
-/
import Mfi.Lemmas.AdminL
import Mfi.Props.C08
import Mfi.Props.C10
namespace Mfi.Props.C12
open Mfi Mfi.Admin Mfi.Gen

theorem testBit_mask64 (i : Nat) : (18446744073709551615 : Nat).testBit i = decide (i < 64) := by
  have : (18446744073709551615 : Nat) = 2 ^ 64 - 1 := by decide
  rw [this]; exact Nat.testBit_two_pow_sub_one 64 i

/-- setting / clearing the flag bit 2^k touches only bit k (of a 64-bit word) -/
theorem setBit_testBit (flags k : Nat) (v : Bool) (i : Nat) (hi : i < 64) :
    (setBit flags ((2 ^ k : Nat) : Int) v).testBit i = if i = k then v else flags.testBit i := by
  -- bit `i` of `2^k` says whether `i = k`; `|||` with it sets that bit, `&&&` with its complement clears it
  have hk : (2 ^ k : Nat).testBit i = decide (i = k) := by rw [Nat.testBit_two_pow]; exact decide_eq_decide.mpr eq_comm
  unfold setBit
  rw [Int.toNat_natCast]
  cases v
  · rw [if_neg Bool.false_ne_true, Nat.testBit_and, testBit_not64 _ hi, hk]
    by_cases h : i = k <;> simp [h]
  · rw [if_pos rfl, Nat.testBit_or, hk]
    by_cases h : i = k <;> simp [h]

theorem flag_consts :
    PERMISSIONLESS_BAD_DEBT_SETTLEMENT_FLAG = ((2 ^ 2 : Nat) : Int) ∧ FREEZE_SETTINGS = ((2 ^ 3 : Nat) : Int) ∧
    TOKENLESS_REPAYMENTS_ALLOWED = ((2 ^ 5 : Nat) : Int) ∧ EMISSION_FLAGS = 3 := by decide

theorem applyFlag_testBit (flags k : Nat) (o : Option Bool) (i : Nat) (hi : i < 64) (hik : i ≠ k) :
    (applyFlag flags ((2 ^ k : Nat) : Int) o).testBit i = flags.testBit i := by
  cases o with
  | none => rfl
  | some v => simp only [applyFlag]; rw [setBit_testBit _ _ _ _ hi]; simp [hik]

/-- `lending_pool_configure_bank`: frozen banks take the limits-only path -/
def configureBankIx (c : Cfg) (flags : Nat) (o : CfgOpt) : Res (Cfg × Nat) :=
  if hasFlag flags FREEZE_SETTINGS then .ok (configureUnfrozen c o, flags) else configure c flags o

/-- `lending_pool_configure_bank_interest_only` -/
def interestOnlyIx (c : Cfg) (flags : Nat) (o : IrOpt) : Res Cfg :=
  if hasFlag flags FREEZE_SETTINGS then .ok c
  else
    let ir' := irUpdate c.ir o
    match Interest.validate ir'.toCalc with
    | .ok true => .ok { c with ir := ir' }
    | .ok false => .error (.err E.InvalidConfig)
    | .error f => .error f

/-- `lending_pool_configure_bank_limits_only` -/
def limitsOnlyIx (c : Cfg) (flags : Nat) (dl bl il : Option Int) : Cfg :=
  if hasFlag flags FREEZE_SETTINGS then { c with depositLimit := setIf c.depositLimit dl, borrowLimit := setIf c.borrowLimit bl }
  else { c with depositLimit := setIf c.depositLimit dl, borrowLimit := setIf c.borrowLimit bl, initLimit := setIf c.initLimit il }

/-- `configure_bank`: on a bank with FREEZE_SETTINGS set, the full configure
    instruction changes nothing but the deposit and borrow limits — weights, interest curve, risk tier,
    collateral-value cap, operational state, oracle limits and every flag (the freeze bit included) stay. -/
theorem frozen_frame_configure (c c' : Cfg) (flags f' : Nat) (o : CfgOpt)
    (hf : hasFlag flags FREEZE_SETTINGS = true) (h : configureBankIx c flags o = .ok (c', f')) :
    f' = flags ∧ c' = { c with depositLimit := c'.depositLimit, borrowLimit := c'.borrowLimit } := by
  simp only [configureBankIx, hf, ↓reduceIte] at h
  injection h with h
  injection h with h1 h2
  subst h1; subst h2
  exact ⟨rfl, rfl⟩

/-- interest-only: does nothing at all on a frozen bank -/
theorem frozen_frame_interest (c c' : Cfg) (flags : Nat) (o : IrOpt)
    (hf : hasFlag flags FREEZE_SETTINGS = true) (h : interestOnlyIx c flags o = .ok c') : c' = c := by
  simp only [interestOnlyIx, hf, ↓reduceIte] at h
  injection h with h; exact h.symm

/-- limits-only: only the two limits on a frozen bank (not the collateral-value cap) -/
theorem frozen_frame_limits (c : Cfg) (flags : Nat) (dl bl il : Option Int)
    (hf : hasFlag flags FREEZE_SETTINGS = true) :
    limitsOnlyIx c flags dl bl il = { c with depositLimit := setIf c.depositLimit dl, borrowLimit := setIf c.borrowLimit bl } := by
  simp [limitsOnlyIx, hf]

/-- The curve admin's instruction changes nothing outside `interest_rate_config` -/
theorem interest_only_frame (c c' : Cfg) (flags : Nat) (o : IrOpt) (h : interestOnlyIx c flags o = .ok c') :
    c' = { c with ir := c'.ir } := by
  unfold interestOnlyIx at h
  split at h
  · injection h with h; subst h; rfl
  · dsimp only at h
    split at h
    · injection h with h; subst h; rfl
    · cases h
    · cases h

/-- The limit admin's instruction changes only the three limits -/
theorem limits_only_frame (c : Cfg) (flags : Nat) (dl bl il : Option Int) :
    let c' := limitsOnlyIx c flags dl bl il
    c' = { c with depositLimit := c'.depositLimit, borrowLimit := c'.borrowLimit, initLimit := c'.initLimit } := by
  simp only [limitsOnlyIx]
  split <;> rfl

/-- `Bank::configure` can only change the three group-flag bits
    (permissionless bad-debt settlement = bit 2, freeze = bit 3, token-less repayments allowed = bit 5);
    every other bit of the flag word — the emissions bits, CLOSE_ENABLED, TOKENLESS_REPAYMENTS_COMPLETE and
    all unassigned bits — is preserved. -/
theorem configure_flags_frame (c c' : Cfg) (flags f' : Nat) (o : CfgOpt) (h : configure c flags o = .ok (c', f'))
    (i : Nat) (hi : i < 64) (h2 : i ≠ 2) (h3 : i ≠ 3) (h5 : i ≠ 5) : f'.testBit i = flags.testBit i := by
  rw [(configure_ok h).2.2.2, flag_consts.1, flag_consts.2.1, flag_consts.2.2.1]
  rw [applyFlag_testBit _ _ _ _ hi h5, applyFlag_testBit _ _ _ _ hi h3, applyFlag_testBit _ _ _ _ hi h2]

/-- The emissions admin's flag update replaces exactly the two emission bits
    (bits 0 and 1) and keeps every other bit, in particular FREEZE_SETTINGS — nobody can lift the freeze
    through it; a word containing any other bit is refused. (Full statement since `fix: emissions flag
    updates replace only the two emissions bits …`; before it the whole word was overwritten.) -/
theorem emissions_flags_frame (flags f r : Nat) (h : overrideEmissionsFlag flags f = .ok r)
    (i : Nat) (hi : i < 64) : r.testBit i = if i < 2 then f.testBit i else flags.testBit i := by
  unfold overrideEmissionsFlag at h
  split at h
  · cases h
  · rename_i hv
    injection h with h
    have hf : verifyEmissionsFlags f = true := by simpa using hv
    have e3 : EMISSION_FLAGS.toNat = 3 := by decide
    simp only [verifyEmissionsFlags, e3, beq_iff_eq] at hf
    rw [← h, e3]
    have h3 : (3 : Nat).testBit i = decide (i < 2) := by
      have : (3 : Nat) = 2 ^ 2 - 1 := by decide
      rw [this]; exact Nat.testBit_two_pow_sub_one 2 i
    have hfi : (f.testBit i && decide (i < 2)) = f.testBit i := by
      have := congrArg (fun n => Nat.testBit n i) hf
      simpa [Nat.testBit_and, h3] using this
    rw [Nat.testBit_or, Nat.testBit_and, testBit_not64 _ hi, h3]
    by_cases h2 : i < 2
    · simp [h2]
    · rw [← hfi]; simp [h2]

theorem emissions_flags_rejects_other_bits (flags f : Nat) (h : (f &&& 3) ≠ f) :
    overrideEmissionsFlag flags f = .error .panic := by
  unfold overrideEmissionsFlag verifyEmissionsFlags
  simp [flag_consts.2.2.2, h]

/-- nobody can lift the freeze: every per-bank configuration path leaves the freeze bit set once it is set -/
theorem freeze_never_lifted (c c' : Cfg) (flags f' : Nat) (o : CfgOpt)
    (hf : hasFlag flags FREEZE_SETTINGS = true) (h : configureBankIx c flags o = .ok (c', f')) :
    hasFlag f' FREEZE_SETTINGS = true := by
  rw [(frozen_frame_configure c c' flags f' o hf h).1]; exact hf

/-- window state with a ghost: the exact sum of whole dollars accepted since the last reset -/
structure WState where
  w : Window
  ghost : Int

def wstep (s : WState) (x : Int × Int) : WState :=   -- (value bits, now)
  match updateWithdrawnEquity s.w x.1 x.2 with
  | .ok w' =>
    if w'.lastReset = s.w.lastReset then ⟨w', s.ghost + x.1 / Fx.ONE⟩ else ⟨w', x.1 / Fx.ONE⟩
  | .error _ => s

theorem reset_spec (w : Window) (now : Int) :
    (resetWindow w now).dailyLimit = w.dailyLimit ∧
    ((resetWindow w now = w) ∨
     ((resetWindow w now).withdrawnToday = 0 ∧ (resetWindow w now).lastReset = now ∧ now ≠ w.lastReset)) := by
  unfold resetWindow
  split
  · rename_i h
    refine ⟨rfl, Or.inr ⟨rfl, rfl, ?_⟩⟩
    intro he
    rw [he] at h
    simp [satI64, Mfi.Gen.DAILY_RESET_INTERVAL] at h
  · exact ⟨rfl, Or.inl rfl⟩

theorem addDollars_spec {w w' : Window} {n : Int} (h : addDollars w n = .ok w') (hl : w.dailyLimit ≠ 0) :
    w' = { w with withdrawnToday := w.withdrawnToday + n } ∧ 0 ≤ n ∧ w.withdrawnToday + n ≤ w.dailyLimit := by
  unfold addDollars at h
  split at h
  · rename_i hr
    split at h
    · cases h
    · rename_i hc
      injection h with h
      refine ⟨h.symm, hr.1, ?_⟩
      omega
  · simp [bad] at h

/-- With a non-zero daily limit, over EVERY history of deleverage withdrawals
    (any values, any timestamps), the exact whole-dollar sum accepted since the last window reset never
    exceeds the limit — the counter can neither wrap nor saturate past it. -/
theorem withdraw_window (xs : List (Int × Int)) : ∀ (s : WState), s.w.dailyLimit ≠ 0 →
    s.ghost = s.w.withdrawnToday → s.ghost ≤ s.w.dailyLimit →
    (xs.foldl wstep s).ghost ≤ (xs.foldl wstep s).w.dailyLimit ∧ (xs.foldl wstep s).w.dailyLimit = s.w.dailyLimit := by
  intro s hl hg hle
  -- kept by every step: the limit is the first one, the ghost sum is the counter, the counter is within the limit
  refine (fun h => ⟨h.2.2, h.1⟩) (ListL.foldl_keeps (Q := fun _ => True)
    (P := fun t => t.w.dailyLimit = s.w.dailyLimit ∧ t.ghost = t.w.withdrawnToday ∧ t.ghost ≤ t.w.dailyLimit)
    (fun t x ht _ => ?_) xs s ⟨rfl, hg, hle⟩ fun _ _ => trivial)
  obtain ⟨hd, hg, hle⟩ := ht
  -- one step, in terms of the state before it alone
  rw [← hd] at hl ⊢
  clear hd
  unfold wstep
  cases hu : updateWithdrawnEquity t.w x.1 x.2 with
  | error e => exact ⟨rfl, hg, hle⟩
  | ok w' =>
    simp only
    unfold updateWithdrawnEquity at hu
    obtain ⟨rl, rr⟩ := reset_spec t.w x.2
    obtain ⟨e, hn, hb⟩ := addDollars_spec hu (by rw [rl]; exact hl)
    rcases rr with rr | ⟨r0, r1, r2⟩
    · rw [rr] at e hb
      have hsame : w'.lastReset = t.w.lastReset := by rw [e]
      simp only [hsame, ↓reduceIte]
      rw [e]
      simp only
      exact ⟨trivial, by omega, by omega⟩
    · have hdiff : ¬ w'.lastReset = t.w.lastReset := by rw [e]; simp only; rw [r1]; exact r2
      simp only [hdiff, ↓reduceIte]
      rw [e]
      simp only
      rw [r0] at hb ⊢
      rw [rl] at hb ⊢
      exact ⟨rfl, by omega, by omega⟩

/-- "within a day" -/
theorem a_day_is_86400_seconds : Mfi.Gen.DAILY_RESET_INTERVAL = 86400 := by decide

/-- A forced deleverage cannot leave the account less healthy: an accepted `end_deleverage` means the
    maintenance health of the portfolio at the end is at least the health recorded when the bracket started
    (model Risk.endDeleverage, diffed against the real instruction; proof: C10.end_receivership_spec) -/
theorem deleverage_cannot_worsen_health {pre : Mfi.Risk.PreCache} {ps : List Mfi.Risk.Pos} {seized repaid : Int}
    (h : Mfi.Risk.endDeleverage pre ps = .ok (seized, repaid)) :
    ∃ cm, Mfi.Risk.components ps .maint = .ok cm ∧ pre.aMaint - pre.lMaint ≤ cm.assets - cm.liabs :=
  Mfi.Props.C10.end_deleverage_spec h

/-- Each role acts on the banks of ITS group only: every existing bank account of every instruction (the named
    single-bank permissionless cranks excepted) carries `has_one = group`, so the group whose admin fields authorise an
    administrative instruction is the group the written bank belongs to (C08.banks_bound_to_group over the regenerated
    constraint table; the cross-group cases are replayed through real dispatch by the C12 monitor) -/
theorem admin_banks_bound_to_group :
    ∀ s ∈ Mfi.Gen.Acc.allStructs, ∀ f ∈ Mfi.Gen.Acc.fields s, f.ty = .loader .bank → f.isInit = false →
      (f.hasOne.any Mfi.Props.C08.groupish = true ∨
       s ∈ [.MigrateCurve, .InitBankMetadata, .LendingAccountSettleEmissions, .PropagateStakedSettings,
            .KaminoHarvestReward, .KaminoInitObligation, .SolendInitObligation, .DriftHarvestReward, .DriftInitUser]) :=
  Mfi.Props.C08.banks_bound_to_group

/-! ### known finding C12-F3: the permissionless `migrate_curve` can re-price a bank whose settings are frozen

The seven-point form keeps rates on a u32 grid whose ceiling is 1000 % APR; a LEGACY curve may legally carry a plateau or
maximum rate above that (validate_legacy only demands 0 < plateau < max). `migrate_curve` needs no signature and does not
look at FREEZE_SETTINGS; for such a curve it clamps the rates, i.e. changes the interest curve of a bank — frozen or not. -/

/-- the legacy curve of the witness: optimal 50 %, plateau 100 %, maximum 1400 % -/
def frozenLegacy : Mfi.Interest.IrCalc :=
  { optimal := Mfi.Fx.ONE / 2, plateau := Mfi.Fx.ONE, maxIr := 14 * Mfi.Fx.ONE, insFixed := 0, insRate := 0, grpFixed := 0, grpRate := 0,
    progFixed := 0, progRate := 0, addProgramFees := false, zeroRate := 0, hundredRate := 0,
    points := [⟨0,0⟩,⟨0,0⟩,⟨0,0⟩,⟨0,0⟩,⟨0,0⟩], curveType := 0 }

/-- Kernel-checked witness (replayed on the real instruction by the C12 monitor every
    run: 'migrate-curve-changes-frozen-rate'): the configuration is accepted, the migration succeeds, and the base rate
    at full utilisation falls from 1400 % to (just under) 1000 % -/
theorem migrate_can_change_the_curve :
    Mfi.Interest.validate frozenLegacy = .ok true ∧
    Mfi.Interest.baseRate frozenLegacy Mfi.Fx.ONE = .ok (14 * Mfi.Fx.ONE) ∧
    ∃ c', Mfi.Interest.migrateCurve frozenLegacy = .ok c' ∧
      ∃ r, Mfi.Interest.baseRate c' Mfi.Fx.ONE = .ok r ∧ r < 10 * Mfi.Fx.ONE + 1 ∧ 9 * Mfi.Fx.ONE < r := by
  refine ⟨by rfl, by rfl, _, by rfl, _, by rfl, by decide, by decide⟩

section whole_instructions
open Mfi Mfi.World Mfi.Gen Mfi.Gen.Acc Mfi.Admin

/-- A withdrawal from an account flagged as being deleveraged goes through
    only if the group's daily window accepts the whole-dollar value of the tokens that leave (valued at the receivership
    price, unweighted): with a non-zero limit, today's counter after the instruction is the counter of the (possibly reset)
    window plus those dollars, and does not exceed the limit. -/
theorem world_deleverage_withdrawal_is_metered {c : Ctx} {amt : Int} {all : Bool} {o : Out}
    (h : World.withdraw c amt all = .ok o) (hd : flag c ACCOUNT_IN_DELEVERAGE = true) (hl : c.g.window.dailyLimit ≠ 0) :
    ∃ price v, withdrawPrice c = .ok price ∧
      Risk.calcValue (Fx.ofInt o.tokens) price (Bank.balanceDecimals o.books) none = .ok v ∧
      o.window = { resetWindow c.g.window c.now with withdrawnToday := (resetWindow c.g.window c.now).withdrawnToday + v / Fx.ONE } ∧
      0 ≤ v / Fx.ONE ∧ o.window.withdrawnToday ≤ o.window.dailyLimit ∧ o.window.dailyLimit = c.g.window.dailyLimit := by
  obtain ⟨price, b, i, s, x', pre, hp, _, _, _, _, hw, _⟩ := (withdraw_ok h).core
  unfold withdrawWindow at hw
  rw [if_pos hd] at hw
  obtain ⟨v, hv, hw⟩ := Res.bind_ok hw
  unfold updateWithdrawnEquity at hw
  have hlim := (reset_spec c.g.window c.now).1
  obtain ⟨e, h0, hle⟩ := addDollars_spec hw (by rw [hlim]; exact hl)
  refine ⟨price, v, hp, hv, e, h0, ?_, ?_⟩
  · rw [e]; simpa using hle
  · rw [e]; simpa using hlim

/-- every other path leaves the window alone: deposits, borrows, repayments, closures, and withdrawals from accounts that
    are not being deleveraged -/
theorem world_window_frame (c : Ctx) :
    (∀ amt up o, World.deposit c amt up = .ok o → o.window = c.g.window) ∧
    (∀ amt o, World.borrow c amt = .ok o → o.window = c.g.window) ∧
    (∀ amt all o, World.repay c amt all = .ok o → o.window = c.g.window) ∧
    (∀ o, World.closeBalance c = .ok o → o.window = c.g.window) ∧
    (∀ amt all o, World.withdraw c amt all = .ok o → flag c ACCOUNT_IN_DELEVERAGE = false → o.window = c.g.window) := by
  refine ⟨fun _ _ _ h => (deposit_ok h).window, fun _ _ h => (borrow_ok h).window, fun _ _ _ h => (repay_ok h).window,
    fun _ h => (close_ok h).rest.2, ?_⟩
  intro amt all o h hd
  obtain ⟨price, b, i, s, x', pre, _, _, _, _, _, hw, _⟩ := (withdraw_ok h).core
  unfold withdrawWindow at hw
  rw [hd] at hw
  simp only [Bool.false_eq_true, if_false] at hw
  injection hw with hw
  exact hw.symm

end whole_instructions

section world_machine
open Mfi Mfi.World

/-- No instruction of the world state machine — none of the user instructions, the
    liquidations, the bankruptcy settlement, the transfer, the permissionless cranks, by any signer with any arguments — changes a
    bank's key, group, vault, interest-rate configuration, origination fee, transfer-fee parameters, risk weights and limits
    (`risk`) or oracle; the operational state stays as it is or becomes KilledByBankruptcy (by a settlement that wipes the bank
    out). Configuration is the admin instructions' alone (the frames above say which field belongs to which role). -/
theorem world_machine_changes_no_configuration (w : World.WState) (op : World.WOp) (j : Nat) (x : WBank) (hx : w.banks[j]? = some x) :
    ∃ x', (w.step op).banks[j]? = some x' ∧ SameCfg x x' := step_bank_frame w op j x hx

/-- the weaker frame that composes over histories: key, group, rate configuration, risk parameters and oracle as they were; the
    operational state as it was or KilledByBankruptcy -/
def CfgKept (x x' : WBank) : Prop :=
  x'.v.key = x.v.key ∧ x'.v.group = x.v.group ∧ x'.v.ir = x.v.ir ∧ x'.risk = x.risk ∧ x'.feed = x.feed ∧
  (x'.v.opState = x.v.opState ∨ x'.v.opState = 3)

theorem cfgKept_of_same {x x' : WBank} (h : SameCfg x x') : CfgKept x x' := by
  obtain ⟨a1, a2, _, a4, _, _, _, _, a9, a10, a11⟩ := h
  exact ⟨a1, a2, a4, a9, a10, a11⟩

theorem cfgKept_trans {x y z : WBank} (h1 : CfgKept x y) (h2 : CfgKept y z) : CfgKept x z := by
  obtain ⟨a1, a2, a3, a4, a5, a6⟩ := h1
  obtain ⟨b1, b2, b3, b4, b5, b6⟩ := h2
  refine ⟨b1.trans a1, b2.trans a2, b3.trans a3, b4.trans a4, b5.trans a5, ?_⟩
  rcases b6 with b6 | b6
  · exact a6.imp (b6.trans ·) (b6.trans ·)
  · exact Or.inr b6

/-- `world_machine_changes_no_configuration` over every history -/
theorem world_history_changes_no_configuration (ops : List World.WOp) : ∀ (w : World.WState) (j : Nat) (x : WBank), w.banks[j]? = some x →
    ∃ x', (w.run ops).banks[j]? = some x' ∧ x'.v.key = x.v.key ∧ x'.v.group = x.v.group ∧ x'.v.ir = x.v.ir ∧ x'.risk = x.risk ∧
      x'.feed = x.feed ∧ (x'.v.opState = x.v.opState ∨ x'.v.opState = 3) :=
  fun w j x hx => (run_bank_frame ops w j x hx).imp fun _ h => ⟨h.1, cfgKept_of_same h.2⟩

theorem stepIn_cfg {tx : List TOp} {i : Nat} {t : TOp} {w w' : World.WState} (h : w.stepIn tx i t = some w')
    (j : Nat) (x : WBank) (hx : w.banks[j]? = some x) : ∃ x', w'.banks[j]? = some x' ∧ CfgKept x x' := by
  rcases stepIn_cases h with ⟨op, rfl, hs⟩ | ⟨_, _, _, _, rfl, _, _⟩
  · obtain ⟨x', hx', hc⟩ := step_bank_frame w op j x hx
    exact ⟨x', step?_some hs ▸ hx', cfgKept_of_same hc⟩
  · exact ⟨x, hx, cfgKept_of_same (sameCfg_refl x)⟩

theorem runFrom_cfg (tx : List TOp) : ∀ (rest : List TOp) (i : Nat) (w w' : World.WState), World.WState.runFrom tx i rest w = some w' →
    ∀ (j : Nat) (x : WBank), w.banks[j]? = some x → ∃ x', w'.banks[j]? = some x' ∧ CfgKept x x' :=
  -- the relation to the FIRST state is what every accepted instruction keeps
  fun rest i w w' h => runFrom_keeps (P := BanksKeep CfgKept w) (fun hs hP => hP.trans @cfgKept_trans (stepIn_cfg hs)) rest i w w' h
    (BanksKeep.refl (fun x => cfgKept_of_same (sameCfg_refl x)) w)

/-- Over every sequence of transactions of the world machine — user instructions,
    liquidations, settlements, cranks, flash-loan brackets, liquidation and forced-deleverage brackets, committed or rolled back,
    by anybody — every bank keeps its key, group, interest-rate configuration, risk weights and limits and its oracle; its
    operational state stays or becomes KilledByBankruptcy. What the risk admin can reach through a deleverage is positions (through
    withdraw / repay, metered) and the account's markers — never a bank's configuration. -/
theorem world_transactions_change_no_configuration : ∀ (txs : List (List TOp)) (w : World.WState) (j : Nat) (x : WBank),
    w.banks[j]? = some x → ∃ x', (w.runTxs txs).banks[j]? = some x' ∧ CfgKept x x' :=
  fun txs w => runTxs_keeps (P := BanksKeep CfgKept w) (fun hs hP => hP.trans @cfgKept_trans (stepIn_cfg hs)) txs w
    (BanksKeep.refl (fun x => cfgKept_of_same (sameCfg_refl x)) w)

/-- Whichever of the two deleverage instructions goes through was signed by the
    group's risk admin, on an account of that group, with the account's own liquidation record -/
theorem world_deleverage_needs_the_risk_admin {c : RCtx} :
    (∀ {shape : Res Unit} {o : StartLiqOut}, startDeleverage c shape = .ok o → c.g.riskAdmin = c.receiver ∧ c.a.group = c.g.key ∧ c.recordOk = true) ∧
    (∀ {stack : Nat} {o : EndLiqOut}, endDeleverage c stack = .ok o → c.g.riskAdmin = c.receiver ∧ c.a.group = c.g.key ∧ c.recordOk = true ∧
      c.a.recReceiver = c.receiver) := by
  constructor
  · intro shape o h
    obtain ⟨⟨h1, h2, h3⟩, _⟩ := startDeleverage_ok h
    exact ⟨h3, h2, h1⟩
  · intro stack o h
    obtain ⟨⟨h1, h2, h3⟩, _, h4, _⟩ := endDeleverage_ok h
    exact ⟨h3, h2, h1, h4⟩

/-- The start and the end of a forced deleverage, as instructions of a
    transaction, change nothing but the account's flag word, the receiver and the snapshot of its liquidation record: no
    position of any account, no bank, no group setting, not the clock. (What the risk admin does to balances in between goes
    through withdraw / repay, metered by `world_deleverage_withdrawal_is_metered`.) -/
theorem world_deleverage_bracket_touches_only_the_markers {w w' : World.WState} {tx : List TOp} {i ai signer : Nat} {ok : Bool}
    (h : w.stepIn tx i (.startDelev ai signer ok) = some w' ∨ w.stepIn tx i (.endDelev ai signer ok) = some w') :
    w'.banks = w.banks ∧ w'.g = w.g ∧ w'.now = w.now ∧
    ∃ a a', w.accts[ai]? = some a ∧ w'.accts = w.accts.set ai a' ∧ a'.slots = a.slots ∧ a'.key = a.key ∧ a'.group = a.group ∧
      a'.authority = a.authority ∧ a'.migratedTo = a.migratedTo := by
  rcases h with h | h
  · obtain ⟨a, _, ha, _, rfl⟩ := stepIn_startDelev h
    exact ⟨rfl, rfl, rfl, a, _, ha, rfl, rfl, rfl, rfl, rfl, rfl⟩
  · obtain ⟨a, _, ha, _, rfl⟩ := stepIn_endDelev h
    exact ⟨rfl, rfl, rfl, a, _, ha, rfl, rfl, rfl, rfl, rfl, rfl⟩

end world_machine

end Mfi.Props.C12
