/-
  C01 — Bank solvency: vault tokens cover net depositor claims and accrued fees.

  slack(V, bank) = V·2^96 − (total_asset_shares·asset_share_value − total_liability_shares·liability_share_value
                             + (fee buckets)·2^48)        (all exact integers, scale 2^96 per token)
  Theorems: every modelled operation changes the slack by at least −allowance(op, state), with the allowance
  DERIVED from the magnitudes involved; accrual is the hard case (interest charged to borrowers = interest
  credited to lenders + fees, up to rounding). Models: Mfi/Model/Bank.lean + Interest.lean (diffed by the
  `bank`, `wrapper`, `curve`, `fees`, `bkr` families); the instruction-level monitor re-checks the slack
  inequality with the same allowances on real vault balances after every real instruction.
-/
import Mfi.Props.C02

namespace Mfi.Props.C01
open Mfi Mfi.Fx Mfi.Bank Mfi.Interest Mfi.Gen Mfi.AccrualL

/-- What an accrual adds to the
    depositors' claims and to the three fee buckets is less than what it adds to the borrowers' debt, plus an allowance
    made of one ulp of rate on the total debt, one ulp of share value per debt share and the per-period lending rate:
      sa·Δasv + Δfees·2^48  <  sl·Δlsv + ⌊lending·dt/year⌋ + tl + sl        (units of 2^-96 token). -/
theorem accrual_conserves {dt sa sl asv lsv : Int} {c : IrCalc} {ch : StateChanges}
    (hsa : 0 ≤ sa) (hsl : 0 ≤ sl) (hasv : 0 ≤ asv) (hlsv : 0 ≤ lsv) (hdt : 0 ≤ dt)
    (hta : 0 < sa * asv / ONE) (htl : 0 < sl * lsv / ONE) (hfees : FeesOk c)
    (hbase : ∀ r, calcInterestRate c (sl * lsv / ONE * ONE / (sa * asv / ONE)) = .ok r → 0 ≤ r.base)
    (h : accrualStateChanges dt (sa * asv / ONE) (sl * lsv / ONE) c asv lsv = .ok ch) :
    ∃ r, calcInterestRate c (sl * lsv / ONE * ONE / (sa * asv / ONE)) = .ok r ∧
      sa * (ch.newAsv - asv) + (ch.insuranceFees + ch.groupFees + ch.protocolFees) * ONE <
        sl * (ch.newLsv - lsv) + r.lending * dt / YEAR + sl * lsv / ONE + sl :=
  Mfi.AccrualL.accrual_conserves hsa hsl hasv hlsv hdt hta htl hfees hbase h

open Mfi.SolvL

/-- An accrual raises the claims by less than its allowance (the vault does not move). -/
theorem accrue_step {b b' : Bank} {ir : IrCalc} {now : Int} (h : accrueInterest b ir now = .ok b')
    (hb : Mfi.Props.C06.BankOk b) (hfees : FeesOk ir) (hbase : BaseOk ir) :
    claims b' ≤ claims b + accrueAllowance b ir now :=
  Mfi.SolvL.accrue_step h hb hfees hbase

theorem shares_le {v sv s : Int} (hv : 0 ≤ v) (hsv : 0 < sv) (h : div? v sv = some s) :
    0 ≤ s ∧ s * sv ≤ v * ONE ∧ v * ONE < s * sv + sv :=
  Mfi.SolvL.shares_le hv hsv h

/-- Deposit, repay, the liquidator's side of a seizure: the claims rise by at most the
    amount credited (×2^48). With the vault receiving at least that amount the slack does not fall. -/
theorem increase_step {b b' : Bank} {x x' : Balance} {now delta : Int} {t : IncType}
    (h : increaseBalance b x now delta t = .ok (b', x')) (hasv : 0 ≤ b.asv) (hlsv : 0 ≤ b.lsv)
    (hd : 0 ≤ delta) (hl : 0 ≤ x.l) : claims b' ≤ claims b + delta * ONE :=
  Mfi.SolvL.increase_step h hasv hlsv hd hl

/-- Withdraw, borrow, the liquidatee's side of a seizure: the claims fall by the amount
    debited (×2^48), short of it by less than one unit of each share value (the two share conversions round
    down). With the vault paying at most that amount, the slack falls by less than asv + lsv. -/
theorem decrease_step {b b' : Bank} {x x' : Balance} {now delta : Int} {t : DecType}
    (h : decreaseBalance b x now delta t = .ok (b', x')) (hasv : 0 ≤ b.asv) (hlsv : 0 ≤ b.lsv)
    (hd : 0 ≤ delta) (ha : 0 ≤ x.a) : claims b' < claims b - delta * ONE + b.asv + b.lsv + 1 :=
  Mfi.SolvL.decrease_step h hasv hlsv hd ha

/-- A full withdrawal removes the whole deposit from the claims, pays out its value
    rounded down to whole tokens and books the fraction as insurance fees: the slack does not fall. -/
theorem withdraw_all_step {b b' : Bank} {x x' : Balance} {now amt : Int}
    (h : withdrawAll b x now = .ok (b', x', amt)) (hasv : 0 ≤ b.asv) (ha : 0 ≤ x.a) :
    claims b' ≤ claims b - amt * ONE * ONE :=
  Mfi.SolvL.withdraw_all_step h hasv ha

/-- A full repayment removes the whole debt from what the bank is owed, charges its value
    rounded UP to whole tokens and books the excess as insurance fees: the slack falls by less than one
    ulp (2^48 at scale 2^96). -/
theorem repay_all_step {b b' : Bank} {x x' : Balance} {now amt : Int}
    (h : repayAll b x now = .ok (b', x', amt)) :
    claims b' < claims b + amt * ONE * ONE + ONE :=
  Mfi.SolvL.repay_all_step h

/-- Fee collection moves whole tokens out of the vault and reduces the buckets by exactly
    the same amounts: the slack is unchanged. -/
theorem collect_step {b : Bank} {v : Int} {c : Collected} (h : collectFees b.feeI b.feeG b.feeP v = .ok c) :
    slack (v - (c.toInsurance + c.toGroup + c.toProgram)) { b with feeI := c.feeI, feeG := c.feeG, feeP := c.feeP } = slack v b :=
  Mfi.SolvL.collect_step h

/-- Unless the bank is wiped out (the sanctioned exception), a settlement raises the
    claims by at most the covered part of the bad debt, which the insurance transfer (rounded up) pays
    into the vault: the slack does not fall. -/
theorem bankruptcy_step {b : Bank} {bal : Balance} {avail now : Int} {o : BankruptcyOut}
    (h : settleBankruptcy b bal avail now = .ok o) (ha : 0 ≤ avail) (hsa : 0 ≤ b.sa) (hasv : 0 ≤ b.asv)
    (hlsv : 0 ≤ b.lsv) (hl : 0 ≤ bal.l) (hnk : o.kill = false) :
    claims o.bank ≤ claims b + o.coveredUp * ONE * ONE :=
  Mfi.SolvL.bankruptcy_step h ha hsa hasv hlsv hl hnk

/-- Debt bank of a classic liquidation: the liquidator's position is debited L1, the
    liquidatee's credited L2 ≤ L1, the whole-token part of the fee L1 − L2 leaves the vault for the insurance
    vault and the fraction goes to the outstanding insurance fees: the slack falls by less than
    asv + lsv + 1. Pure arithmetic over the two step bounds. -/
theorem liquidation_fee_step {c0 c1 c2 l1 l2 asv lsv whole fracp : Int}
    (hdec : c1 < c0 - l1 * ONE + asv + lsv + 1) (hinc : c2 ≤ c1 + l2 * ONE) (hfee : l1 - l2 = whole * ONE + fracp) :
    -(whole * ONE * ONE) - (c2 + fracp * ONE - c0) > -(asv + lsv + 1) :=
  Mfi.SolvL.liquidation_fee_step hdec hinc hfee

/-- A borrow of `amt` tokens with origination fee `fee` debits amt·2^48 + fee, adds `fee`
    to the fee buckets and pays `amt` tokens: the slack falls by less than asv + lsv + 1. -/
theorem borrow_fee_step {c0 c1 amt fee asv lsv : Int}
    (hdec : c1 < c0 - (amt * ONE + fee) * ONE + asv + lsv + 1) :
    -(amt * ONE * ONE) - (c1 + fee * ONE - c0) > -(asv + lsv + 1) :=
  Mfi.SolvL.borrow_fee_step hdec

open Mfi.Props.C02 in
/-- one bank, all its positions, its liquidity vault, and the allowance spent so far (scale 2^96) -/
structure Sys where
  L : Mfi.Props.C02.Ledger
  vault : Int
  spent : Int

inductive SOp
  | open_
  | deposit (i : Nat) (amt recv : Int)     -- position credited `amt` tokens, vault receives `recv` ≥ amt (C03 prefee_covers)
  | repay (i : Nat) (amt recv : Int)
  | withdraw (i : Nat) (amt : Int)         -- position debited and vault pays `amt` tokens
  | borrow (i : Nat) (amt : Int)
  | withdrawAll (i : Nat)
  | repayAll (i : Nat)
  | close (i : Nat)
  | accrue (ir : IrCalc)
  | collect

def opOk : SOp → Prop
  | .deposit _ amt recv => 0 ≤ amt ∧ amt ≤ recv
  | .repay _ amt recv => 0 ≤ amt ∧ amt ≤ recv
  | .withdraw _ amt => 0 ≤ amt
  | .borrow _ amt => 0 ≤ amt
  | .accrue ir => FeesOk ir ∧ BaseOk ir
  | _ => True

def upd (s : Sys) (b' : Bank) (i : Nat) (x' : Balance) : Mfi.Props.C02.Ledger :=
  { s.L with bank := b', bals := s.L.bals.set i x' }

/-- a failing operation aborts and leaves everything unchanged -/
def step (s : Sys) (now : Int) : SOp → Sys
  | .open_ => { s with L := Mfi.Props.C02.step s.L now .open_ }
  | .deposit i amt recv =>
    match s.L.bals[i]? with
    | none => s
    | some x => match increaseBalance s.L.bank x now (ofInt amt) .depositOnly with
      | .ok (b', x') => { s with L := upd s b' i x', vault := s.vault + recv }
      | .error _ => s
  | .repay i amt recv =>
    match s.L.bals[i]? with
    | none => s
    | some x => match increaseBalance s.L.bank x now (ofInt amt) .repayOnly with
      | .ok (b', x') => { s with L := upd s b' i x', vault := s.vault + recv }
      | .error _ => s
  | .withdraw i amt =>
    match s.L.bals[i]? with
    | none => s
    | some x => match decreaseBalance s.L.bank x now (ofInt amt) .withdrawOnly with
      | .ok (b', x') => { L := upd s b' i x', vault := s.vault - amt, spent := s.spent + s.L.bank.asv + s.L.bank.lsv + 1 }
      | .error _ => s
  | .borrow i amt =>
    match s.L.bals[i]? with
    | none => s
    | some x => match decreaseBalance s.L.bank x now (ofInt amt) .borrowOnly with
      | .ok (b', x') => { L := upd s b' i x', vault := s.vault - amt, spent := s.spent + s.L.bank.asv + s.L.bank.lsv + 1 }
      | .error _ => s
  | .withdrawAll i =>
    match s.L.bals[i]? with
    | none => s
    | some x => match withdrawAll s.L.bank x now with
      | .ok (b', x', amt) => { s with L := { upd s b' i x' with dustL := s.L.dustL + x.l }, vault := s.vault - amt }
      | .error _ => s
  | .repayAll i =>
    match s.L.bals[i]? with
    | none => s
    | some x => match repayAll s.L.bank x now with
      | .ok (b', x', amt) => { L := { upd s b' i x' with dustA := s.L.dustA + x.a }, vault := s.vault + amt, spent := s.spent + ONE }
      | .error _ => s
  | .close i => { s with L := Mfi.Props.C02.step s.L now (.close i) }
  | .accrue ir =>
    match accrueInterest s.L.bank ir now with
    | .ok b' => { s with L := { s.L with bank := b' }, spent := s.spent + accrueAllowance s.L.bank ir now }
    | .error _ => s
  | .collect =>
    match collectFees s.L.bank.feeI s.L.bank.feeG s.L.bank.feeP s.vault with
    | .ok c => { s with L := { s.L with bank := { s.L.bank with feeI := c.feeI, feeG := c.feeG, feeP := c.feeP } },
                        vault := s.vault - (c.toInsurance + c.toGroup + c.toProgram) }
    | .error _ => s

/-- vault minus claims, plus the allowance spent: never decreases -/
def potential (s : Sys) : Int := slack s.vault s.L.bank + s.spent

theorem ofInt_mul (a : Int) : ofInt a * ONE = a * ONE * ONE := rfl

section
open Mfi.Props.C02
variable {s : Sys} {i : Nat} {x : Balance} {now amt : Int}

def Keeps (s s' : Sys) : Prop := potential s ≤ potential s' ∧ Inv s'.L

/-- the cases of `step` that work on position `i` do nothing when there is none -/
theorem onPos (hi : Inv s.L) {g : Balance → Sys} (h : ∀ x, s.L.bals[i]? = some x → Keeps s (g x)) :
    Keeps s (match s.L.bals[i]? with
      | none => s
      | some x => g x) := by
  cases hget : s.L.bals[i]? with
  | none => exact ⟨Int.le_refl _, hi⟩
  | some x => exact h x hget

theorem inc_keeps {recv : Int} (t : IncType) (hi : Inv s.L) (hget : s.L.bals[i]? = some x) (hop : 0 ≤ amt ∧ amt ≤ recv) :
    Keeps s (match increaseBalance s.L.bank x now (ofInt amt) t with
      | .ok (b', x') => { s with L := upd s b' i x', vault := s.vault + recv }
      | .error _ => s) := by
  cases hres : increaseBalance s.L.bank x now (ofInt amt) t with
  | error e => exact ⟨Int.le_refl _, hi⟩
  | ok r =>
    obtain ⟨b', x'⟩ := r
    have hd0 : 0 ≤ ofInt amt := Int.mul_nonneg hop.1 (le_of_lt ONE_pos)
    have hst := increase_step hres (le_of_lt hi.svpos.1) (le_of_lt hi.svpos.2) hd0 (hi.nonneg x (mem_of_get hget)).2
    have e2 : ofInt amt * ONE ≤ recv * ONE * ONE :=
      Int.mul_le_mul_of_nonneg_right (Int.mul_le_mul_of_nonneg_right hop.2 (le_of_lt ONE_pos)) (le_of_lt ONE_pos)
    have := slack_add (v := s.vault) (dv := recv) (a := 0) (b := s.L.bank) (b' := b') (by omega)
    exact ⟨by simp only [potential, upd]; omega, hi.inc hget hres hd0⟩

/-- the two share conversions round down, which the allowance `asv + lsv + 1` covers -/
theorem dec_keeps (t : DecType) (hi : Inv s.L) (hget : s.L.bals[i]? = some x) (hop : 0 ≤ amt) :
    Keeps s (match decreaseBalance s.L.bank x now (ofInt amt) t with
      | .ok (b', x') => { L := upd s b' i x', vault := s.vault - amt, spent := s.spent + s.L.bank.asv + s.L.bank.lsv + 1 }
      | .error _ => s) := by
  cases hres : decreaseBalance s.L.bank x now (ofInt amt) t with
  | error e => exact ⟨Int.le_refl _, hi⟩
  | ok r =>
    obtain ⟨b', x'⟩ := r
    have hd0 : 0 ≤ ofInt amt := Int.mul_nonneg hop (le_of_lt ONE_pos)
    have hst := decrease_step hres (le_of_lt hi.svpos.1) (le_of_lt hi.svpos.2) hd0 (hi.nonneg x (mem_of_get hget)).1
    have := slack_sub (v := s.vault) (dv := amt) (a := s.L.bank.asv + s.L.bank.lsv + 1) (b := s.L.bank) (b' := b')
      (by rw [ofInt_mul] at hst; omega)
    exact ⟨by simp only [potential, upd]; omega, hi.dec hget hres hd0⟩

end

open Mfi.Props.C02 in
theorem step_potential (s : Sys) (now : Int) (op : SOp) (hi : Inv s.L) (hop : opOk op) :
    potential s ≤ potential (step s now op) ∧ Inv (step s now op).L := by
  have hsv := hi.svpos
  cases op with
  | open_ => exact ⟨Int.le_refl _, inv_step s.L now .open_ hi trivial⟩
  | close i =>
    refine Mfi.Props.C02.onPos (P := fun L => Keeps s { s with L := L }) ⟨Int.le_refl _, hi⟩ fun x hget => ?_
    cases hres : closeBalanceOp s.L.bank x now with
    | error e => exact ⟨Int.le_refl _, hi⟩
    | ok r => exact ⟨by simp only [potential, slack, close_step hres]; exact Int.le_refl _, hi.close hget hres⟩
  | deposit i amt recv => exact onPos hi fun _ hget => inc_keeps .depositOnly hi hget hop
  | repay i amt recv => exact onPos hi fun _ hget => inc_keeps .repayOnly hi hget hop
  | withdraw i amt => exact onPos hi fun _ hget => dec_keeps .withdrawOnly hi hget hop
  | borrow i amt => exact onPos hi fun _ hget => dec_keeps .borrowOnly hi hget hop
  | withdrawAll i =>
    refine onPos hi fun x hget => ?_
    cases hres : withdrawAll s.L.bank x now with
    | error e => exact ⟨Int.le_refl _, hi⟩
    | ok r =>
      obtain ⟨b', x', amt⟩ := r
      have hst := withdraw_all_step hres (le_of_lt hsv.1) (hi.nonneg x (mem_of_get hget)).1
      have := slack_sub (v := s.vault) (dv := amt) (a := 0) (b := s.L.bank) (b' := b') (by omega)
      exact ⟨by simp only [potential, upd]; omega, hi.wdAll hget hres⟩
  | repayAll i =>
    refine onPos hi fun x hget => ?_
    cases hres : repayAll s.L.bank x now with
    | error e => exact ⟨Int.le_refl _, hi⟩
    | ok r =>
      obtain ⟨b', x', amt⟩ := r
      have hst := repay_all_step hres
      have := slack_add (v := s.vault) (dv := amt) (a := ONE) (b := s.L.bank) (b' := b') (by omega)
      exact ⟨by simp only [potential, upd]; omega, hi.repAll hget hres⟩
  | accrue ir =>
    simp only [step]
    cases hres : accrueInterest s.L.bank ir now with
    | error e => exact ⟨Int.le_refl _, hi⟩
    | ok b' =>
      have hst := accrue_step hres hi.bankOk hop.1 hop.2
      obtain ⟨m1, m2, e1, e2, _⟩ := Mfi.Props.C06.accrue_spec hres hi.bankOk
      exact ⟨by simp only [potential, slack]; omega, hi.books e1 e2 m1 m2⟩
  | collect =>
    simp only [step]
    cases hres : collectFees s.L.bank.feeI s.L.bank.feeG s.L.bank.feeP s.vault with
    | error e => exact ⟨Int.le_refl _, hi⟩
    | ok c =>
      have := collect_step hres
      exact ⟨by simp only [potential]; omega, hi.books rfl rfl (Int.le_refl _) (Int.le_refl _)⟩

def runOps (s : Sys) (ops : List (Int × SOp)) : Sys := ops.foldl (fun s p => step s p.1 p.2) s

open Mfi.Props.C02 in
/-- Over EVERY history of position openings, deposits, repayments, withdrawals, borrows,
    full withdrawals / repayments, balance closures, interest accruals (any rate configuration with
    non-negative fees and base rate, any clock) and fee collections, by any number of accounts,

        vault·2^96 − (deposits − loans + uncollected fees)  ≥  (its initial value) − (allowance spent),

    where the allowance grows by asv + lsv + 1 per withdrawal or borrow, by 2^48 per full repayment and by
    accrueAllowance (one ulp of rate on the debt, one ulp per debt share, the per-period lending rate) per
    accrual — all at scale 2^96 per native token — and by nothing for the other operations. -/
theorem solvency_history (ops : List (Int × SOp)) :
    ∀ (s : Sys), Inv s.L → (∀ p ∈ ops, opOk p.2) →
      potential s ≤ potential (runOps s ops) ∧ Inv (runOps s ops).L := by
  induction ops with
  | nil => intro s hi _; exact ⟨Int.le_refl _, hi⟩
  | cons p rest ih =>
    intro s hi hok
    simp only [runOps, List.foldl_cons]
    obtain ⟨h1, h2⟩ := step_potential s p.1 p.2 hi (hok p (List.mem_cons_self ..))
    obtain ⟨h3, h4⟩ := ih _ h2 (fun q hq => hok q (List.mem_cons_of_mem _ hq))
    exact ⟨Int.le_trans h1 h3, h4⟩

/-- a solvent start stays solvent up to the allowance: slack ≥ −spent -/
theorem solvent_up_to_allowance (ops : List (Int × SOp)) (s : Sys) (hi : Mfi.Props.C02.Inv s.L)
    (hok : ∀ p ∈ ops, opOk p.2) (h0 : 0 ≤ slack s.vault s.L.bank) (hs : s.spent = 0) :
    -(runOps s ops).spent ≤ slack (runOps s ops).vault (runOps s ops).L.bank := by
  have := (solvency_history ops s hi hok).1
  unfold potential at this
  omega

/-- the token-denominated accounting this file is about is the only accounting the standard instructions can reach:
    they are constrained to the program's own banks (constraint table regenerated from the source; Mfi.TagL) -/
theorem standard_instructions_only_on_own_banks : Mfi.TagL.OwnBanks :=
  Mfi.TagL.standard_instructions_only_on_own_banks

/-- a deposit / repayment credited with `post` tokens brings at least `post` tokens into the vault whatever the mint (classic, Token-2022 with or without a transfer fee) and whatever the epoch, also the one in which a scheduled fee change activates (C03 mint_prefee_covers; tf.mint lines of the tokenfee family run here too) -/
theorem deposits_arrive_in_every_epoch {m : Mfi.Token.Mint} {epoch post pre f : Int} (hp : 0 ≤ post)
    (hm : ∀ c, m = .t22fee c → Mfi.Props.C03.FeeCfgOk c)
    (h : Mfi.Token.mintPre m epoch post = some pre) (hf : Mfi.Token.mintFee m epoch pre = some f) : post ≤ pre - f :=
  Mfi.Props.C03.mint_prefee_covers hp hm h hf

/-! ### solvency over every history of WHOLE instructions (Mfi/Model/World.lean; lemmas in Mfi/Lemmas/WorldSolv*.lean)

The single-bank history above speaks about wrapper operations with the vault movements given as arguments. Here the operations are
the whole instructions of the world state machine — account checks interpreted from the regenerated table, gates, accrual, slot
search, the bank-and-position core, fee booking, sunset cases, risk engine — on any number of accounts and banks, and the
vault movement of each step is READ OFF the instruction's own outcome (`tokens`, `insuranceTokens`; the `world` family diffs
both against the real token movements through real dispatch). -/

section whole_instructions
open Mfi.World

/-- the ghost-instrumented step is the state machine's step: the ledgers ride along, they do not steer -/
theorem world_ghost_step_is_the_step (w : WState) (op : WOp) : (w.stepE op).1 = w.step op := stepE_fst w op

theorem world_ghost_run_is_the_run (w : WState) (g : Ghost) (ops : List WOp) : (w.runE g ops).1 = w.run ops := by
  induction ops generalizing w g with
  | nil => rfl
  | cons op rest ih =>
    simp only [WState.runE, WState.run, List.foldl_cons]
    rw [ih, stepE_fst]
    rfl

/-- One whole instruction — deposit, withdraw (partial / complete / completed-deleverage
    pay-out), borrow (with origination fee split between group and program), repay (partial / complete / token-less), balance
    closure, bankruptcy settlement, classic liquidation, the accrual crank, fee collection, by any signer on any accounts and banks with any unsigned arguments,
    accepted or refused — keeps the invariant and, for EVERY bank of the world,

        vault·2^96 − (deposits − loans + uncollected fees) + allowance consumed + sanctioned write-offs

    does not fall, where the vault moves by exactly the tokens the instruction's outcome announces (deposits and repayments
    net of the mint's transfer fee; the insurance pay-in of a settlement; the whole-token insurance fee of a liquidation and the three transfers of a fee collection out),
    the allowance grows by the accrual allowance (one ulp of rate on the debt, one ulp per debt share, the per-period lending
    rate) plus asv + lsv + 1 per withdrawal / borrow / liquidation leg and 2^48 per complete repayment (all at 2^-96 token),
    and the write-offs are the two sanctioned exceptions: the risk admin's token-less repayment on a sunset bank, and the bad
    debt of a settlement that wipes the bank out (which then is killed). The debt share value of no bank falls. -/
theorem world_instruction_keeps_solvency (w : WState) (g : Ghost) (op : WOp) (hi : SInv w) (hop : op.Ok) :
    SInv (w.stepE op).1 ∧ ∀ (j : Nat) (x x' : WBank), w.banks[j]? = some x → (w.stepE op).1.banks[j]? = some x' →
      pot g x ≤ pot (g.apply (w.stepE op).2) x' ∧ x.v.books.lsv ≤ x'.v.books.lsv :=
  stepE_sound w g op hi hop

/-- Over EVERY history of whole instructions, every bank keeps its place and key, its potential at
    the end is at least its potential at the start, and its debt share value has not fallen. -/
theorem world_solvency_history (ops : List WOp) (w : WState) (g : Ghost) (hi : SInv w) (hok : ∀ op ∈ ops, op.Ok) :
    SInv (w.runE g ops).1 ∧ ∀ (j : Nat) (x : WBank), w.banks[j]? = some x →
      ∃ x', (w.runE g ops).1.banks[j]? = some x' ∧ x'.v.key = x.v.key ∧ pot g x ≤ pot (w.runE g ops).2 x' ∧
        x.v.books.lsv ≤ x'.v.books.lsv :=
  runE_sound ops w g hi hok

/-- a bank that starts solvent stays solvent up to the allowance consumed and the sanctioned write-offs:
    vault·2^96 − claims ≥ −(allowance + write-offs) at the end of every history -/
theorem world_solvent_up_to_allowance (ops : List WOp) (w : WState) (g : Ghost) (hi : SInv w) (hok : ∀ op ∈ ops, op.Ok)
    (j : Nat) (x : WBank) (hx : w.banks[j]? = some x) (h0 : 0 ≤ slack (g.vault x.v.key) x.v.books)
    (hs : g.spent x.v.key = 0) (hw : g.written x.v.key = 0) :
    ∃ x', (w.runE g ops).1.banks[j]? = some x' ∧
      -((w.runE g ops).2.spent x'.v.key + (w.runE g ops).2.written x'.v.key) ≤ slack ((w.runE g ops).2.vault x'.v.key) x'.v.books := by
  obtain ⟨x', hx', _, hp, _⟩ := (runE_sound ops w g hi hok).2 j x hx
  refine ⟨x', hx', ?_⟩
  unfold pot at hp
  omega

/-- every validated seven-point curve gives a non-negative base rate: the `BaseOk` premise of the invariant holds for every
    configuration the program accepts (C18 `curve_never_fails`) -/
theorem base_ok_of_validated (c : IrCalc) (hw : Mfi.Props.C18.WF c) (hct : c.curveType = 1) (hv : validateSevenPoint c = true) :
    BaseOk c := by
  intro ur r h
  obtain ⟨_, _, _, _, hb, _⟩ := Mfi.Props.C18.calc_spec h
  obtain ⟨r', hr', h0, _⟩ := Mfi.Props.C18.curve_never_fails c hw hct hv ur
  cases hb.symm.trans hr'
  exact h0

/-- an empty world of any number of accounts and of banks with distinct keys, fresh books (no shares, share values and fee
    buckets in range) and an accepted configuration satisfies the invariant — and so does every world reached from it
    (non-vacuity of the history theorem) -/
theorem world_solvency_initial (now : Int) (g : GroupV) (banks : List WBank) (n : Nat)
    (hk : ∀ (i j : Nat) (bi bj : WBank), banks[i]? = some bi → banks[j]? = some bj → i ≠ j → bi.v.key ≠ bj.v.key)
    (h0 : ∀ b ∈ banks, b.v.books.sa = 0 ∧ b.v.books.sl = 0)
    (hb : ∀ b ∈ banks, SvFee b.v.books ∧ CfgOk b.v g.progFeeRate ∧ (b.v.opState ≠ 3 → 0 < b.v.books.asv))
    (group authority : Nat) :
    SInv { now, g, banks, dustA := fun _ => 0, dustL := fun _ => 0,
           accts := List.replicate n { key := 0, group, authority, flags := 0, slots := List.replicate 16 Account.emptySlot } } := by
  refine ⟨Mfi.Props.C02.world_ledger_initial now g banks n hk h0 group authority, ?_, fun _ => ⟨Int.le_refl _, Int.le_refl _⟩, ?_⟩
  · intro i a ha
    have hm := List.mem_of_getElem? ha
    rw [List.mem_replicate] at hm
    rw [hm.2]
    intro s hs
    rw [List.mem_replicate] at hs
    rw [hs.2]
    exact ⟨Int.le_refl _, Int.le_refl _⟩
  · intro j b hj
    exact hb b (List.mem_of_getElem? hj)

/-- Over EVERY sequence of TRANSACTIONS of the world state machine — lists of whole
    instructions, flash-loan starts / ends and liquidation starts / ends, executed atomically, a refused instruction rolling its
    whole transaction back with all its ledger movements — the invariant holds throughout, every bank keeps its place and key,
    no bank's potential (vault·2^96 − claims + allowance consumed + sanctioned write-offs) falls, no debt share value falls.
    Inside a flash loan or a receivership the health checks are deferred; the books and the vault are not. -/
theorem world_solvency_over_transactions (txs : List (List TOp)) (w : WState) (g : Ghost) (hi : SInv w)
    (hok : ∀ tx ∈ txs, ∀ t ∈ tx, t.Ok) :
    SInv (w.runTxsE g txs).1 ∧ ∀ (j : Nat) (x : WBank), w.banks[j]? = some x →
      ∃ x', (w.runTxsE g txs).1.banks[j]? = some x' ∧ x'.v.key = x.v.key ∧ pot g x ≤ pot (w.runTxsE g txs).2 x' ∧
        x.v.books.lsv ≤ x'.v.books.lsv := by
  show Good w g _ _
  induction txs generalizing w g with
  | nil => exact good_refl hi
  | cons tx rest ih =>
    have h1 := runTxE_good w g tx hi (hok tx (List.mem_cons_self ..))
    exact good_trans h1 (ih _ _ h1.1 (fun t ht => hok t (List.mem_cons_of_mem _ ht)))

/-- the ledger-instrumented transaction is the transaction (`WorldTx.runTx`; rolled back = the state as it was) -/
theorem world_ghost_tx_is_the_tx (w : WState) (g : Ghost) (tx : List TOp) : (w.runTxE g tx).1 = (w.runTx tx).getD w := by
  unfold WState.runTxE WState.runTx
  rw [← runFromE_fst tx tx 0 w []]
  cases WState.runFromE tx 0 tx w [] <;> rfl

def demoIr : IrCalc :=
  { optimal := 0, plateau := 0, maxIr := 0, insFixed := 0, insRate := 0, grpFixed := 0, grpRate := 0,
    progFixed := 0, progRate := 0, addProgramFees := false, zeroRate := 100, hundredRate := 1000,
    points := List.replicate 5 ⟨0, 0⟩, curveType := 1 }

def demoBooks : Bank :=
  { asv := ONE, lsv := ONE, sa := 0, sl := 0, feeI := 0, feeG := 0, feeP := 0, depositLimit := U64MAX,
    borrowLimit := U64MAX, flags := 0, assetTag := 0, mintDecimals := 6, emissionsRate := 0, emissionsRemaining := 0,
    lendCnt := 0, borrowCnt := 0, lastUpdate := 0, cacheAccum := 0, cacheFor := 0 }

def demoBankV : BankV :=
  { key := 1, group := 1, liquidityVault := 2, books := demoBooks, ir := demoIr, opState := 1, origFee := 0, tfBps := 0, tfMax := 0,
    weightInitZero := false }

/-- the premises on a bank are satisfiable: fresh books at share value 1 with a flat validated seven-point curve, no
    transfer fee, no origination fee -/
example : SvFee demoBankV.books ∧ CfgOk demoBankV 0 ∧ (demoBankV.opState ≠ 3 → 0 < demoBankV.books.asv) ∧
    demoBankV.books.sa = 0 ∧ demoBankV.books.sl = 0 := by
  refine ⟨⟨by decide, by decide, by decide, by decide, by decide⟩, ?_, fun _ => by decide, rfl, rfl⟩
  refine ⟨⟨by decide, by decide, by decide, by decide, by decide, by decide⟩, ?_, ⟨by decide, by decide, by decide⟩, by decide, ⟨by decide, by decide⟩⟩
  exact base_ok_of_validated demoIr ⟨by decide, by decide, by decide⟩ rfl (by decide)

end whole_instructions

end Mfi.Props.C01
