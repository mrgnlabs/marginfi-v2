/-
  C08 — Authorization: only the entitled signer can act on an account, bank or group.
  Theorems by `decide` over the account-constraint table REGENERATED from the `#[derive(Accounts)]`
  structs on every run, plus theorems about the model of the signer rule (`is_signer_authorized`,
  `account_not_frozen_for_authority`). What a constraint MEANS (that `has_one = group` rejects a
  foreign group, that `Signer` requires a signature, PDA `seeds` checks) is Anchor's behaviour: it is
  exercised through real dispatch by the C08 monitor (signer × substitution matrix).
-/
import Mfi.Lemmas.AccL
import Mfi.Props.C09

namespace Mfi.Props.C08
open Mfi.Gen.Acc Mfi.Auth

/-- The two constraints together admit exactly: the authority of an unfrozen account;
    the group admin of a frozen account (never its authority, unless the authority IS the admin —
    then `AccountFrozen` wins); anyone while the account is in receivership, if the instruction allows it. -/
theorem signer_rule (a : AcctView) (admin signer : Nat) (allowR : Bool) :
    (isSignerAuthorized a admin signer allowR && notFrozenForAuthority a signer) = true ↔
      ((allowR = true ∧ a.inReceivership = true ∧ ¬ (a.frozen = true ∧ a.authority = signer)) ∨
       (¬ (allowR = true ∧ a.inReceivership = true) ∧ a.frozen = false ∧ a.authority = signer) ∨
       (¬ (allowR = true ∧ a.inReceivership = true) ∧ a.frozen = true ∧ admin = signer ∧ a.authority ≠ signer)) := by
  obtain ⟨au, fr, rc⟩ := a
  cases allowR <;> cases fr <;> cases rc <;> simp [isSignerAuthorized, notFrozenForAuthority]

/-- instructions that act on a margin account under the signer rule, with the account field and
    whether receivership lets a third party in -/
def userOps : List (S × F × Bool) :=
  [(.LendingAccountDeposit, .f_marginfi_account, false), (.LendingAccountBorrow, .f_marginfi_account, false),
   (.LendingAccountWithdraw, .f_marginfi_account, true), (.LendingAccountRepay, .f_marginfi_account, true),
   (.LendingAccountCloseBalance, .f_marginfi_account, false), (.LendingAccountWithdrawEmissions, .f_marginfi_account, false),
   (.LendingAccountLiquidate, .f_liquidator_marginfi_account, false),
   (.TransferToNewAccount, .f_old_marginfi_account, false), (.TransferToNewAccountPda, .f_old_marginfi_account, false),
   (.KaminoDeposit, .f_marginfi_account, false), (.KaminoWithdraw, .f_marginfi_account, true),
   (.DriftDeposit, .f_marginfi_account, false), (.DriftWithdraw, .f_marginfi_account, true),
   (.SolendDeposit, .f_marginfi_account, false), (.SolendWithdraw, .f_marginfi_account, true)]

/-- Each of `userOps` carries BOTH signer-rule constraints against a
    `Signer` account; receivership admits third parties only for withdraw / repay / integration withdraws. -/
theorem account_ops_need_entitled_signer :
    ∀ x ∈ userOps,
      hasCons x.1 x.2.1 (.signerAuth x.2.1 .f_authority x.2.2) = true ∧
      hasCons x.1 x.2.1 (.notFrozen x.2.1 .f_authority) = true ∧
      isSigner x.1 .f_authority = true ∧ hasOneOf x.1 x.2.1 .f_group = true := by decide

/-- instructions bound to the account authority by `has_one = authority` (no admin / receivership path) -/
theorem authority_only_ops :
    ∀ s ∈ [S.MarginfiAccountClose, .LendingAccountStartFlashloan, .LendingAccountEndFlashloan,
           .MarginfiAccountUpdateEmissionsDestinationAccount],
      hasOneOf s .f_marginfi_account .f_authority = true ∧ isSigner s .f_authority = true := by decide

/-- every other struct with a mutable margin account is one of the explicitly named special cases:
    liquidation / bankruptcy of a qualifying account, the receivership brackets (record-bound), admin
    freeze, risk-admin purge/deleverage, and the permissionless accounting cranks. -/
theorem mutable_account_structs_classified :
    ∀ s ∈ allStructs, (fields s).any (fun f => f.ty == .loader .marginfiAccount && f.isMut) = true →
      (s ∈ userOps.map (·.1) ∨
       s ∈ [.MarginfiAccountClose, .LendingAccountStartFlashloan, .LendingAccountEndFlashloan,
            .MarginfiAccountUpdateEmissionsDestinationAccount] ∨
       s ∈ [.LendingPoolHandleBankruptcy, .StartLiquidation, .EndLiquidation, .StartDeleverage, .EndDeleverage,
            .InitLiquidationRecord, .SetAccountFreeze, .LendingAccountPurgeDelevBalance, .PulseHealth,
            .LendingAccountSettleEmissions, .LendingAccountWithdrawEmissionsPermissionless]) := by decide

/-- (struct, account that stores the role, role field) -/
def adminOps : List (S × F × F) :=
  [(.LendingPoolConfigureBank, .f_group, .f_admin), (.LendingPoolConfigureBankOracle, .f_group, .f_admin),
   (.LendingPoolSetFixedOraclePrice, .f_group, .f_admin), (.LendingPoolCloseBank, .f_group, .f_admin),
   (.LendingPoolAddBank, .f_marginfi_group, .f_admin), (.LendingPoolAddBankWithSeed, .f_marginfi_group, .f_admin),
   (.LendingPoolCloneBank, .f_marginfi_group, .f_admin),
   (.LendingPoolAddBankKamino, .f_group, .f_admin), (.LendingPoolAddBankDrift, .f_group, .f_admin),
   (.LendingPoolAddBankSolend, .f_group, .f_admin),
   (.LendingPoolWithdrawFees, .f_group, .f_admin), (.LendingPoolWithdrawInsurance, .f_group, .f_admin),
   (.LendingPoolUpdateFeesDestinationAccount, .f_group, .f_admin),
   (.MarginfiGroupConfigure, .f_marginfi_group, .f_admin), (.ConfigureDeleverageWithdrawalLimit, .f_marginfi_group, .f_admin),
   (.InitStakedSettings, .f_marginfi_group, .f_admin), (.EditStakedSettings, .f_marginfi_group, .f_admin),
   (.LendingPoolConfigureBankInterestOnly, .f_group, .f_delegate_curve_admin),
   (.LendingPoolConfigureBankLimitsOnly, .f_group, .f_delegate_limit_admin),
   (.LendingPoolConfigureBankEmode, .f_group, .f_emode_admin),
   (.LendingPoolSetupEmissions, .f_group, .f_delegate_emissions_admin),
   (.LendingPoolUpdateEmissionsParameters, .f_group, .f_delegate_emissions_admin),
   (.LendingPoolForceTokenlessRepayComplete, .f_group, .f_risk_admin),
   (.LendingAccountPurgeDelevBalance, .f_group, .f_risk_admin),
   (.StartDeleverage, .f_group, .f_risk_admin), (.EndDeleverage, .f_group, .f_risk_admin),
   (.WriteBankMetadata, .f_group, .f_metadata_admin),
   (.EditFeeState, .f_fee_state, .f_global_fee_admin), (.ConfigGroupFee, .f_fee_state, .f_global_fee_admin),
   (.PanicPause, .f_fee_state, .f_global_fee_admin), (.PanicUnpause, .f_fee_state, .f_global_fee_admin)]

/-- `has_one = <role>` on the account that stores the role, and the role account is a `Signer` -/
theorem admin_ix_role :
    ∀ x ∈ adminOps, hasOneOf x.1 x.2.1 x.2.2 = true ∧ isSigner x.1 x.2.2 = true := by decide

/-- the freeze toggle is bound to the group admin by an explicit key equality -/
theorem freeze_needs_group_admin :
    hasCons .SetAccountFreeze .f_admin (.adminEq .f_group .f_admin) = true ∧ isSigner .SetAccountFreeze .f_admin = true ∧
    hasOneOf .SetAccountFreeze .f_marginfi_account .f_group = true := by decide

def groupish (f : F) : Bool := f == .f_group || f == .f_marginfi_group

/-- Banks are bound to the instruction's group: every existing (non-`init`) bank account in every
    struct carries `has_one = group`, except the named single-bank permissionless cranks. -/
theorem banks_bound_to_group :
    ∀ s ∈ allStructs, ∀ f ∈ fields s, f.ty = .loader .bank → f.isInit = false →
      (f.hasOne.any groupish = true ∨
       s ∈ [.MigrateCurve, .InitBankMetadata, .LendingAccountSettleEmissions, .PropagateStakedSettings,
            .KaminoHarvestReward, .KaminoInitObligation, .SolendInitObligation, .DriftHarvestReward, .DriftInitUser]) := by
  decide

/-- margin accounts are bound to the instruction's group wherever a group or bank is involved -/
theorem accounts_bound_to_group :
    ∀ s ∈ allStructs, ∀ f ∈ fields s, f.ty = .loader .marginfiAccount → f.isInit = false →
      (f.hasOne.any groupish = true ∨
       s ∈ [.MarginfiAccountClose, .LendingAccountSettleEmissions, .MarginfiAccountUpdateEmissionsDestinationAccount,
            .LendingAccountStartFlashloan, .LendingAccountEndFlashloan, .InitLiquidationRecord, .StartLiquidation,
            .EndLiquidation, .PulseHealth]) := by
  decide

/-- Vaults are bound to the bank: in every fund-moving struct each vault token account is either a
    PDA checked by `seeds` (over the bank key) or named by the bank's `has_one`; vault authorities are PDAs. -/
theorem vaults_bound_to_bank :
    ∀ s ∈ allStructs, ∀ f ∈ fields s, f.isInit = false →
      (f.name = .f_liquidity_vault ∨ f.name = .f_insurance_vault ∨ f.name = .f_fee_vault) →
      (f.hasSeeds = true ∨ hasOneOf s .f_bank f.name = true ∨ hasOneOf s .f_liab_bank f.name = true) := by
  decide

theorem vault_authorities_are_pdas :
    ∀ s ∈ allStructs, ∀ f ∈ fields s,
      (f.name = .f_liquidity_vault_authority ∨ f.name = .f_insurance_vault_authority ∨ f.name = .f_fee_vault_authority ∨
       f.name = .f_bank_liquidity_vault_authority) → f.hasSeeds = true := by
  decide

/-- the fee state is always the program's singleton PDA -/
theorem fee_state_is_pda :
    ∀ s ∈ allStructs, ∀ f ∈ fields s, f.ty = .loader .feeState → f.hasSeeds = true := by decide

/-- Oracle substitution: in every pricing arm of the oracle adapter (regenerated from state/price.rs) the number
    of accounts is fixed first and EVERY account — price feed, venue reserve / spot market, pool-token mint, stake
    account — is compared with the key the bank has configured at that index before anything is loaded from it; a Pyth
    account additionally has its owner compared with the receiver program (C09.every_account_bound / pyth_owner_checked). -/
theorem oracle_accounts_bound :
    (∀ a ∈ Mfi.Gen.Ora.arms, Mfi.Props.C09.pricing a.2 = true →
      a.2.head? = (Mfi.Props.C09.declaredLen a.2).map Mfi.Gen.Ora.OEv.lenCheck ∧
      (match Mfi.Props.C09.declaredLen a.2 with
       | some n => (List.range n).all fun i => Mfi.Props.C09.before a.2 (.keyCheck i) (Mfi.Props.C09.firstLoad a.2)
       | none => false) = true) ∧
    (∀ a ∈ Mfi.Gen.Ora.arms, ∀ i, a.2.contains (.loadPyth i) = true →
      i = 0 ∧ Mfi.Props.C09.before a.2 .pythOwnerCheck (Mfi.Props.C09.firstLoad a.2) = true) :=
  ⟨Mfi.Props.C09.every_account_bound, Mfi.Props.C09.pyth_owner_checked⟩

/-- The constraints the translator cannot classify are pinned verbatim: 22 account constraints of the
    integration / emissions / fee-destination / staked-settings structs have no recognised kind in the generated table
    (venue account owner and mint bindings, obligation / spot-position checks, destination mints, ...; the deleverage
    receiver = risk admin test is classified and interpreted since the deleverage bracket is modelled). Their normalised text is fingerprinted by the translator on every run and must be
    exactly this list (struct, account, fingerprint): an edit of any of them — dropped, weakened, pointed at another
    account — is a broken obligation even though no theorem speaks about its meaning. -/
theorem unclassified_constraints_pinned :
    Mfi.Gen.Acc.otherFingerprints =
      [(.LendingPoolAddBankKamino, .f_integration_acc_1, 1294895318964715725), (.KaminoDeposit, .f_integration_acc_2, 102789841884831255),
       (.KaminoDeposit, .f_integration_acc_2, 2232305478470895852), (.KaminoWithdraw, .f_integration_acc_2, 2232305478470895852),
       (.KaminoWithdraw, .f_integration_acc_2, 102789841884831255), (.LendingAccountSettleEmissions, .f_marginfi_account, 1925430640847475726),
       (.LendingPoolAddBankSolend, .f_integration_acc_1, 1481642461694787521),
       (.SolendDeposit, .f_integration_acc_2, 1332785733999453949), (.SolendWithdraw, .f_integration_acc_2, 1332785733999453949),
       (.LendingPoolUpdateFeesDestinationAccount, .f_destination_account, 2287509815940661847), (.LendingPoolWithdrawFeesPermissionless, .f_fees_destination_account, 442390752958412362),
       (.PropagateStakedSettings, .f_bank, 192467567798966075), (.LendingPoolAddBankDrift, .f_integration_acc_1, 778144333709451630),
       (.DriftDeposit, .f_integration_acc_2, 3003145849582993), (.DriftDeposit, .f_integration_acc_1, 1555694171009604275),
       (.DriftHarvestReward, .f_integration_acc_2, 522844572761367543), (.DriftHarvestReward, .f_harvest_drift_spot_market, 1082706562961323273),
       (.DriftHarvestReward, .f_harvest_drift_spot_market, 2159362736921184234), (.DriftWithdraw, .f_integration_acc_2, 3003145849582993),
       (.DriftWithdraw, .f_integration_acc_2, 471323873936025127), (.DriftWithdraw, .f_integration_acc_2, 1377500195096470279),
       (.DriftWithdraw, .f_integration_acc_1, 1555694171009604275)] := by decide

section whole_instructions
open Mfi Mfi.World Mfi.Gen Mfi.Gen.Acc Mfi.Auth

/-! ### whole instructions (Mfi/Model/World.lean: the account checks are INTERPRETED from the regenerated table) -/

/-- who got through: the authority of an unfrozen account, the group admin of a frozen one (never its authority), or —
    only where the instruction admits it — anyone while the account is in receivership -/
def EntitledSigner (c : Ctx) (allowR : Bool) : Prop :=
  let a := acctView c.a.authority c.a.flags
  (allowR = true ∧ a.inReceivership = true ∧ ¬ (a.frozen = true ∧ c.a.authority = c.signer)) ∨
  (¬ (allowR = true ∧ a.inReceivership = true) ∧ a.frozen = false ∧ c.a.authority = c.signer) ∨
  (¬ (allowR = true ∧ a.inReceivership = true) ∧ a.frozen = true ∧ c.g.admin = c.signer ∧ c.a.authority ≠ c.signer)

theorem entitled_signer {c : Ctx} {allowR : Bool} (h : Entitled c allowR) : EntitledSigner c allowR := by
  have := (signer_rule (acctView c.a.authority c.a.flags) c.g.admin c.signer allowR).1 (by simp [h.signer, h.notFrozen])
  simpa [EntitledSigner, acctView] using this

/-- Whatever else is true of the context, a deposit, borrow or balance
    closure goes through only for the entitled signer with NO receivership path, a withdrawal or repayment only for the
    entitled signer or, in receivership, a third party; and the account and the bank both belong to the group named, the
    bank is one of the program's own. -/
theorem world_user_instructions_need_entitled_signer (c : Ctx) :
    (∀ amt up o, World.deposit c amt up = .ok o → EntitledSigner c false ∧ c.a.group = c.g.key ∧ c.b.group = c.g.key) ∧
    (∀ amt o, World.borrow c amt = .ok o → EntitledSigner c false ∧ c.a.group = c.g.key ∧ c.b.group = c.g.key) ∧
    (∀ o, World.closeBalance c = .ok o → EntitledSigner c false ∧ c.a.group = c.g.key ∧ c.b.group = c.g.key) ∧
    (∀ amt all o, World.withdraw c amt all = .ok o → EntitledSigner c true ∧ c.a.group = c.g.key ∧ c.b.group = c.g.key) ∧
    (∀ amt all o, World.repay c amt all = .ok o → EntitledSigner c true ∧ c.a.group = c.g.key ∧ c.b.group = c.g.key) := by
  have key : ∀ {allowR}, Entitled c allowR → EntitledSigner c allowR ∧ c.a.group = c.g.key ∧ c.b.group = c.g.key :=
    fun h => ⟨entitled_signer h, h.acctGroup, h.bankGroup⟩
  exact ⟨fun _ _ _ h => key (deposit_ok h).checks.1, fun _ _ h => key (borrow_ok h).checks.1,
    fun _ h => key (close_ok h).checks, fun _ _ _ h => key (withdraw_ok h).checks.1, fun _ _ _ h => key (repay_ok h).checks.1⟩

/-- The four instructions that move tokens do so only through the liquidity vault recorded in
    the bank -/
theorem world_vault_is_the_banks (c : Ctx) :
    (∀ amt up o, World.deposit c amt up = .ok o → c.b.liquidityVault = c.vaultKey) ∧
    (∀ amt o, World.borrow c amt = .ok o → c.b.liquidityVault = c.vaultKey) ∧
    (∀ amt all o, World.withdraw c amt all = .ok o → c.b.liquidityVault = c.vaultKey) ∧
    (∀ amt all o, World.repay c amt all = .ok o → c.b.liquidityVault = c.vaultKey) :=
  ⟨fun _ _ _ h => (deposit_ok h).checks.2.1, fun _ _ h => (borrow_ok h).checks.2.1,
   fun _ _ _ h => (withdraw_ok h).checks.2.1, fun _ _ _ h => (repay_ok h).checks.2⟩

/-- non-vacuity: a stranger is refused with `Unauthorized`, the owner passes the checks -/
example : ∃ c : Ctx, runChecks c.env (checks .LendingAccountBorrow) = .ok () ∧
    runChecks { c with signer := 99 }.env (checks .LendingAccountBorrow) = .error (.err E.Unauthorized) := by
  refine ⟨{ now := 0, g := { key := 1, admin := 2, riskAdmin := 3, paused := false, progFeeRate := 0, window := ⟨0, 0, 0⟩ },
            a := { key := 4, group := 1, authority := 5, flags := 0, slots := [] }, signer := 5,
            b := { key := 6, group := 1, liquidityVault := 7,
                   books := ⟨0,0,0,0,0,0,0,0,0,0,0,0,0,0,0,0,0,0,0⟩, ir := ⟨0,0,0,0,0,0,0,0,0,false,0,0,[],0⟩, opState := 1, origFee := 0, tfBps := 0, tfMax := 0, weightInitZero := false },
            vaultKey := 7, vaultAmount := 0, risk := [] }, ?_, ?_⟩ <;> decide

/-! ### transactions (Mfi/Model/WorldTx.lean): a third party acts on an account only strictly inside its bracket -/

/-- who signed, read off the account as the instruction found it -/
def OwnSigner (g : GroupV) (a : AcctV) (signer : Nat) : Prop :=
  (hasFlag a.flags ACCOUNT_FROZEN = false ∧ a.authority = signer) ∨
  (hasFlag a.flags ACCOUNT_FROZEN = true ∧ g.admin = signer ∧ a.authority ≠ signer)

theorem EntitledSigner.own_or {c : Ctx} {allowR : Bool} (h : EntitledSigner c allowR) :
    OwnSigner c.g c.a c.signer ∨ (allowR = true ∧ hasFlag c.a.flags ACCOUNT_IN_RECEIVERSHIP = true) := by
  unfold EntitledSigner at h
  simp only [acctView] at h
  rcases h with h | h | h
  · exact .inr ⟨h.1, h.2.1⟩
  · exact .inl (.inl ⟨h.2.1, h.2.2⟩)
  · exact .inl (.inr ⟨h.2.1, h.2.2.1, h.2.2.2⟩)

theorem own_or_receivership {c : Ctx} (h : EntitledSigner c true) :
    OwnSigner c.g c.a c.signer ∨ hasFlag c.a.flags ACCOUNT_IN_RECEIVERSHIP = true := h.own_or.imp_right (·.2)

/-- In a COMMITTED transaction of the world machine (begun with no
    account in receivership), every withdrawal was signed by the account's authority (account not frozen) or by the group admin
    (account frozen) — or the transaction is a receivership bracket OF THAT ACCOUNT (it opens with the start_liquidation /
    start_deleverage of that very account and closes with its end) and the withdrawal sits strictly between the two. There is no
    third way to move funds out of someone's balances, in any transaction. -/
theorem world_tx_third_party_withdraws_only_inside_a_bracket {w w' : WState} {tx : List TOp} (h : w.runTx tx = some w')
    (h0 : ∀ (k : Nat) (a : AcctV), w.accts[k]? = some a → inRecv a = false)
    {i ai bi signer : Nat} {amount vault : Int} {all : Bool} (hi : tx[i]? = some (.ix (.withdraw ai bi signer amount all vault))) :
    ∃ (wi : WState) (a : AcctV), w.before tx i = some wi ∧ wi.accts[ai]? = some a ∧
      (OwnSigner wi.g a signer ∨ (AnyBracket tx ai ∧ 0 < i ∧ i + 1 < tx.length)) := by
  obtain ⟨wi, a, b, o, hbef, ha, hb, ho, hbr⟩ := tx_withdraw_in_bracket h h0 hi
  exact ⟨wi, a, hbef, ha, (own_or_receivership (entitled_signer (withdraw_ok ho).checks.1)).imp_right hbr⟩

theorem world_tx_third_party_repays_only_inside_a_bracket {w w' : WState} {tx : List TOp} (h : w.runTx tx = some w')
    (h0 : ∀ (k : Nat) (a : AcctV), w.accts[k]? = some a → inRecv a = false)
    {i ai bi signer : Nat} {amount : Int} {all : Bool} (hi : tx[i]? = some (.ix (.repay ai bi signer amount all))) :
    ∃ (wi : WState) (a : AcctV), w.before tx i = some wi ∧ wi.accts[ai]? = some a ∧
      (OwnSigner wi.g a signer ∨ (AnyBracket tx ai ∧ 0 < i ∧ i + 1 < tx.length)) := by
  obtain ⟨wi, a, b, o, hbef, ha, hb, ho, hbr⟩ := tx_repay_in_bracket h h0 hi
  exact ⟨wi, a, hbef, ha, (own_or_receivership (entitled_signer (repay_ok ho).checks.1)).imp_right hbr⟩

theorem own_of_entitled {c : Ctx} (h : EntitledSigner c false) : OwnSigner c.g c.a c.signer :=
  h.own_or.resolve_right fun h => nomatch h.1

/-- In every COMMITTED transaction each deposit and each borrow was signed by the
    account's authority (account not frozen) or by the group admin (account frozen) — there is NO receivership path for them:
    inside a bracket a third party may withdraw and repay, never deposit or borrow in the account's name -/
theorem world_tx_deposits_and_borrows_need_the_owner {w w' : WState} {tx : List TOp} (h : w.runTx tx = some w') (i : Nat) :
    (∀ ai bi signer amount upTo, tx[i]? = some (.ix (.deposit ai bi signer amount upTo)) →
      ∃ (wi : WState) (a : AcctV), w.before tx i = some wi ∧ wi.accts[ai]? = some a ∧ OwnSigner wi.g a signer) ∧
    (∀ ai bi signer amount, tx[i]? = some (.ix (.borrow ai bi signer amount)) →
      ∃ (wi : WState) (a : AcctV), w.before tx i = some wi ∧ wi.accts[ai]? = some a ∧ OwnSigner wi.g a signer) := by
  refine ⟨?_, ?_⟩
  · intro ai bi signer amount upTo hi
    obtain ⟨wi, a, b, o, hbef, ha, _, ho⟩ := tx_user_ran h hi (.deposit ..)
    exact ⟨wi, a, hbef, ha, own_of_entitled (entitled_signer (deposit_ok ho).checks.1)⟩
  · intro ai bi signer amount hi
    obtain ⟨wi, a, b, o, hbef, ha, _, ho⟩ := tx_user_ran h hi (.borrow ..)
    exact ⟨wi, a, hbef, ha, own_of_entitled (entitled_signer (borrow_ok ho).checks.1)⟩

end whole_instructions

end Mfi.Props.C08
