/-
  C13 — Accepted configurations are coherent and always leave a liquidation buffer.
  Theorems about Mfi/Model/Admin.lean (BankConfig::validate, Bank::configure, e-mode validation), which
  the `admin` family diffs against the real functions on generated valid and invalid configurations.
-/
import Mfi.Lemmas.AdminL
import Mfi.Props.C04

namespace Mfi.Props.C13
open Mfi Mfi.Fx Mfi.Admin Mfi.Gen

theorem need_ok {b : Bool} {c : Nat} (h : need b c = .ok ()) : b = true := (Res.of_ite_else_error h).1

structure Coherent (c : Cfg) : Prop where
  aInit_range : 0 ≤ c.aInit ∧ c.aInit ≤ ONE
  aMaint_range : c.aInit ≤ c.aMaint ∧ c.aMaint ≤ 2 * ONE
  liab : ONE ≤ c.lMaint ∧ c.lMaint ≤ c.lInit
  isolated : c.riskTier = 1 → c.aInit = 0 ∧ c.aMaint = 0
  oracle_age : ORACLE_MIN_AGE ≤ c.oracleMaxAge
  curve : Interest.validate c.ir.toCalc = .ok true

/-- everything `BankConfig::validate` accepts is coherent -/
theorem validate_coherent (c : Cfg) (h : validateCfg c = .ok ()) : Coherent c := by
  unfold validateCfg at h
  obtain ⟨e1, h⟩ := Res.guard_bind_ok h
  obtain ⟨e2, h⟩ := Res.guard_bind_ok h
  obtain ⟨e3, h⟩ := Res.guard_bind_ok h
  obtain ⟨e4, h⟩ := Res.guard_bind_ok h
  obtain ⟨e5, h⟩ := Res.guard_bind_ok h
  obtain ⟨ok, h6, h⟩ := Res.bind_ok h
  obtain ⟨e7, h⟩ := Res.guard_bind_ok h
  obtain ⟨_, h8, h⟩ := Res.bind_ok h
  have e9 := need_ok h
  simp only [Bool.and_eq_true, decide_eq_true_eq] at e1 e2 e3 e4 e5 e9
  subst e7
  refine ⟨⟨e1.1, e1.2⟩, ⟨e3, by have := ONE_pos; omega⟩, ⟨e5.2, e5.1⟩, ?_, e9, h6⟩
  intro hiso
  simp only [hiso, ↓reduceIte] at h8
  obtain ⟨h81, h82⟩ := Res.guard_bind_ok h8
  exact ⟨of_decide_eq_true h81, of_decide_eq_true (need_ok h82)⟩

/-- whatever `Bank::configure` accepts leaves a coherent configuration -/
theorem configure_coherent (c c' : Cfg) (flags f' : Nat) (o : CfgOpt) (h : configure c flags o = .ok (c', f')) :
    Coherent c' :=
  validate_coherent _ (configure_ok h).2.1

theorem stateGuard_ok (cur : Gate.OpState) (o : Option Gate.OpState) (h : stateGuard cur o = .ok ()) :
    (setIf cur o = .killedByBankruptcy ↔ cur = .killedByBankruptcy) := by
  cases o with
  | none => simp [setIf]
  | some st => cases st <;> cases cur <;> simp [stateGuard, setIf, bad] at h ⊢

/-- `configure` can neither put a bank into nor take it out of the
    killed-by-bankruptcy state (the second half since `fix: Bank::configure cannot take a bank out of
    the KilledByBankruptcy state`). -/
theorem configure_killed_iff (c c' : Cfg) (flags f' : Nat) (o : CfgOpt) (h : configure c flags o = .ok (c', f')) :
    (c'.opState = .killedByBankruptcy ↔ c.opState = .killedByBankruptcy) := by
  rw [(configure_ok h).2.2.1]
  exact stateGuard_ok _ _ (configure_ok h).1

/-- the frozen path of configure_bank cannot touch the operational state at all -/
theorem configureUnfrozen_state (c : Cfg) (o : CfgOpt) : (configureUnfrozen c o).opState = c.opState := rfl

/-- what `calculate_max_leverage` establishes -/
theorem maxLeverage_ok {cw lw lev : Int} (h : maxLeverage cw lw = .ok lev) : 0 < lw ∧ cw < lw := by
  unfold maxLeverage at h
  obtain ⟨h1, h⟩ := Res.guard_bind_ok h
  obtain ⟨h2, h⟩ := Res.guard_bind_ok h
  exact ⟨of_decide_eq_true h1, of_decide_eq_true h2⟩

/-- Every non-empty entry accepted against a bank's liability weights has
    0 ≤ init ≤ maint, init < liability-init weight, maint < liability-maint weight, and its implied leverage
    1/(1 − w/l) (computed by the code's own `calculate_max_leverage`) is within the group caps. -/
theorem validateEntry_ok {e : Entry} {lI lM mI mM : Int} (h : validateEntry e lI lM mI mM = .ok ()) (hne : e.tag ≠ 0) :
    0 ≤ e.init ∧ e.init ≤ e.maint ∧ e.init < lI ∧ e.maint < lM ∧
    (∃ li, maxLeverage e.init lI = .ok li ∧ li ≤ mI) ∧ (∃ lm, maxLeverage e.maint lM = .ok lm ∧ lm ≤ mM) := by
  unfold validateEntry at h
  simp only [hne, ↓reduceIte] at h
  obtain ⟨h1, h⟩ := Res.guard_bind_ok h
  obtain ⟨h2, h⟩ := Res.guard_bind_ok h
  obtain ⟨li, h3, h⟩ := Res.bind_ok h
  obtain ⟨h4, h⟩ := Res.guard_bind_ok h
  obtain ⟨lm, h5, h⟩ := Res.bind_ok h
  exact ⟨of_decide_eq_true h1, of_decide_eq_true h2, (maxLeverage_ok h3).2, (maxLeverage_ok h5).2,
    ⟨li, h3, of_decide_eq_true h4⟩, ⟨lm, h5, of_decide_eq_true (need_ok h)⟩⟩

theorem validateEntries_all : ∀ (es : List Entry) (a b c d : Int), validateEntries es a b c d = .ok () →
    ∀ e ∈ es, validateEntry e a b c d = .ok () := by
  intro es
  induction es with
  | nil => intro _ _ _ _ _ e he; cases he
  | cons x rest ih =>
    intro a b c d h e he
    unfold validateEntries at h
    obtain ⟨_, h1, h2⟩ := Res.bind_ok h
    rcases List.mem_cons.1 he with rfl | hm
    · exact h1
    · exact ih a b c d h2 e hm

/-- every entry of what `validate_entries_with_liability_weights` accepts is coherent -/
theorem emode_config_coherent (es : List Entry) (lI lM mI mM : Int) (h : validateEmode es lI lM mI mM = .ok ()) :
    ∀ e ∈ es, e.tag ≠ 0 → 0 ≤ e.init ∧ e.init ≤ e.maint ∧ e.init < lI ∧ e.maint < lM := by
  unfold validateEmode at h
  obtain ⟨_, h1, _⟩ := Res.bind_ok h
  intro e he hne
  have := validateEntry_ok (validateEntries_all es _ _ _ _ h1 e he) hne
  exact ⟨this.1, this.2.1, this.2.2.1, this.2.2.2.1⟩

/-! ### the whole instruction (`Admin.ixConfigureBank`, diffed bit for bit against the real
`lending_pool_configure_bank` through dispatch by the `cfgix` family) -/

/-- Whatever the full-configure INSTRUCTION accepts on an unfrozen bank leaves a coherent
    configuration AND every e-mode entry the bank already holds is coherent against the NEW liability weights
    (weights below them, leverage within the group's caps) — lowering the liability weights under a stored entry is
    refused; on a frozen bank only the two limits can change -/
theorem ix_configure_coherent (c c' : Cfg) (flags f' : Nat) (es : List Entry) (mi mm : Int) (o : CfgOpt)
    (h : ixConfigureBank c flags es mi mm o = .ok (c', f')) :
    (hasFlag flags FREEZE_SETTINGS = false →
      Coherent c' ∧ validateEmode es c'.lInit c'.lMaint mi mm = .ok () ∧
      (∀ e ∈ es, e.tag ≠ 0 → 0 ≤ e.init ∧ e.init ≤ e.maint ∧ e.init < c'.lInit ∧ e.maint < c'.lMaint)) ∧
    (hasFlag flags FREEZE_SETTINGS = true → c' = configureUnfrozen c o ∧ f' = flags) := by
  unfold ixConfigureBank at h
  constructor
  · intro hf
    simp only [hf, Bool.false_eq_true, ↓reduceIte] at h
    obtain ⟨⟨r1, r2⟩, hr, h⟩ := Res.bind_ok h
    obtain ⟨_, hv, h⟩ := Res.bind_ok h
    cases Res.pure_ok h
    exact ⟨configure_coherent c _ flags _ o hr, hv, emode_config_coherent es _ _ mi mm hv⟩
  · intro hf
    rw [if_pos hf] at h
    cases Res.pure_ok h
    exact ⟨rfl, rfl⟩

/-! ### the consequence: a liquidation buffer

`C04.init_implies_maint` proves, on the risk-engine model, that an account passing the initial-margin check at
given prices has non-negative maintenance health — from exactly the weight ordering established above. The two
lemmas below discharge its configuration hypotheses from what `validate`/`configure`/e-mode validation accept. -/

theorem risk_view_coherent (c : Cfg) (b : Risk.BankR) (hc : Coherent c)
    (hw : b.aInit = c.aInit ∧ b.aMaint = c.aMaint ∧ b.lInit = c.lInit ∧ b.lMaint = c.lMaint)
    (hsv : 0 ≤ b.asv ∧ 0 ≤ b.lsv) : C04.Coherent b := by
  have := ONE_pos
  obtain ⟨h1, h2, h3, h4⟩ := hw
  refine ⟨?_, ?_, ?_, ?_, hsv.1, hsv.2⟩
  · rw [h1]; exact hc.aInit_range.1
  · rw [h1, h2]; exact hc.aMaint_range.1
  · rw [h4]; have := hc.liab.1; omega
  · rw [h3, h4]; exact hc.liab.2

theorem risk_view_entries (es : List Entry) (lI lM mI mM : Int) (h : validateEmode es lI lM mI mM = .ok ()) :
    C04.EntriesOk (es.map fun e => { tag := e.tag.toNat, flags := e.flags.toNat, wInit := e.init, wMaint := e.maint }) := by
  intro e he hne
  obtain ⟨x, hx, rfl⟩ := List.mem_map.1 he
  have hne' : x.tag ≠ 0 := by intro h0; apply hne; simp [h0]
  have := emode_config_coherent es lI lM mI mM h x hx hne'
  exact ⟨this.1, this.2.1⟩

/-- (non-vacuity) an accepted configuration -/
def sampleCfg : Cfg :=
  { aInit := ONE / 2, aMaint := ONE * 3 / 4, lInit := ONE * 3 / 2, lMaint := ONE * 5 / 4, depositLimit := 1000, borrowLimit := 1000,
    opState := .operational, riskTier := 0, assetTag := 0, initLimit := 0, oracleMaxConf := 0, oracleMaxAge := 60,
    ir := { optimal := 0, plateau := 0, maxIr := 0, insFixed := 0, insRate := 0, grpFixed := 0, grpRate := 0, origination := 0,
            zeroRate := 0, hundredRate := 429496729, points := [⟨2147483647, 214748364⟩, ⟨0, 0⟩, ⟨0, 0⟩, ⟨0, 0⟩, ⟨0, 0⟩], curveType := 1 } }
example : validateCfg sampleCfg = .ok () := by decide
example : (validateEmode [⟨1, 0, ONE * 9 / 10, ONE * 19 / 20⟩] sampleCfg.lInit sampleCfg.lMaint 644245094 858993459).isOk = true := by decide

end Mfi.Props.C13
