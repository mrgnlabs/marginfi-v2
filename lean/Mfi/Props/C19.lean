/-
  C19 — Fees and emissions reach only their destinations, in exactly accrued amounts.

  * fee collection: `collectFees` (Mfi/Model/Bank.lean) is the arithmetic of
    `lending_pool_collect_bank_fees`; the `fees` family runs the REAL instruction through real dispatch
    (SPL, Token-2022 and transfer-fee mints) on generated buckets/liquidity and diffs bucket and vault
    deltas against it.
  * emissions: `claimEmissions` / `settleEmissions` are diffed by the `wrapper` family against the real
    `BankAccountWrapper`.
  * destinations / signers: decided over the tables the translator regenerates from the source
    (Mfi.Gen.Acc account constraints, Mfi.Gen.Skel handler skeletons, Mfi.Gen.Skel.vaultUses).
-/
import Mfi.Props.C08
import Mfi.Lemmas.FreeL

namespace Mfi.Props.C19
open Mfi Mfi.Fx Mfi.Bank Mfi.Gen

theorem guard_ok {c : Prop} [Decidable c] (h : (if c then (.ok () : Res Unit) else .error .panic) = .ok ()) : c :=
  (Res.of_ite_else_error h).1

theorem toU64?_some {a n : Int} (h : toU64? a = some n) : n = a / ONE ∧ 0 ≤ n ∧ n ≤ U64MAX := Fx.toU64?_some h

theorem floor_div (a : Int) : Fx.int a / ONE = a / ONE := floor_ediv a

/-- Whenever collection succeeds, every transfer is the whole-token part of
    min(bucket, liquidity still available), buckets fall by exactly what moved (×2^48 bits), and
    the three transfers together never exceed the vault. -/
theorem collect_exact {fI fG fP v : Int} {c : Collected} (h : collectFees fI fG fP v = .ok c) :
    c.toInsurance = min fI (v * ONE) / ONE ∧
    c.toGroup = min fG ((v - c.toInsurance) * ONE) / ONE ∧
    c.toProgram = min fP ((v - c.toInsurance - c.toGroup) * ONE) / ONE ∧
    c.feeI = fI - c.toInsurance * ONE ∧ c.feeG = fG - c.toGroup * ONE ∧ c.feeP = fP - c.toProgram * ONE ∧
    0 ≤ c.toInsurance ∧ 0 ≤ c.toGroup ∧ 0 ≤ c.toProgram ∧
    c.toInsurance + c.toGroup + c.toProgram ≤ v := by
  unfold collectFees at h
  apply Res.bind_elim h; clear h; intro fI' h1 h
  apply Res.bind_elim h; clear h; intro a1 h2 h
  apply Res.bind_elim h; clear h; intro fG' h3 h
  apply Res.bind_elim h; clear h; intro a2 h4 h
  apply Res.bind_elim h; clear h; intro _ g1 h
  apply Res.bind_elim h; clear h; intro g h5 h
  apply Res.bind_elim h; clear h; intro i h6 h
  apply Res.bind_elim h; clear h; intro fP' h7 h
  apply Res.bind_elim h; clear h; intro a3 h8 h
  apply Res.bind_elim h; clear h; intro _ g2 h
  apply Res.bind_elim h; clear h; intro p h9 h
  cases h
  obtain ⟨ei, i0, hI, ha1⟩ := bucket_ok (math_ok h6) (math_ok h1) (math_ok h2)
  obtain ⟨eg, g0, hG, ha2⟩ := bucket_ok (math_ok h5) (math_ok h3) (math_ok h4)
  obtain ⟨ep, p0, hP, ha3⟩ := bucket_ok (math_ok h9) (math_ok h7) (math_ok h8)
  -- the liquidity left after each transfer, in whole tokens
  rw [ofInt, ← Int.sub_mul] at ha1
  rw [ha1, ← Int.sub_mul] at ha2
  rw [ha2, ← Int.sub_mul] at ha3
  have hv : 0 ≤ v - i - g - p := Int.nonneg_of_mul_nonneg_left (ha3 ▸ guard_ok g2) ONE_pos
  exact ⟨ei, ha1 ▸ eg, ha2 ▸ ep, hI, hG, hP, i0, g0, p0, by dsimp only; omega⟩

/-- with non-negative buckets and enough liquidity, collection leaves exactly the fractional part
    of each bucket behind (the whole-token part moved). -/
theorem collect_full {fI fG fP v : Int} {c : Collected} (h : collectFees fI fG fP v = .ok c)
    (hI : 0 ≤ fI) (hG : 0 ≤ fG) (hP : 0 ≤ fP) (hv : fI + fG + fP ≤ v * ONE) :
    c.feeI = fI % ONE ∧ c.feeG = fG % ONE ∧ c.feeP = fP % ONE ∧
    c.toInsurance = fI / ONE ∧ c.toGroup = fG / ONE ∧ c.toProgram = fP / ONE := by
  -- each `min` is the bucket: the liquidity left after the earlier transfers still covers it
  have hIle := mulfloor_le fI
  have hGle := mulfloor_le fG
  have a1 : fI ≤ v * ONE := by omega
  have a2 : fG ≤ (v - fI / ONE) * ONE := by rw [Int.sub_mul]; omega
  have a3 : fP ≤ (v - fI / ONE - fG / ONE) * ONE := by rw [Int.sub_mul, Int.sub_mul]; omega
  obtain ⟨e1, e2, e3, e4, e5, e6, -⟩ := collect_exact h
  rw [Int.min_eq_left a1] at e1
  rw [e1, Int.min_eq_left a2] at e2
  rw [e1, e2, Int.min_eq_left a3] at e3
  refine ⟨?_, ?_, ?_, e1, e2, e3⟩
  · rw [e4, e1, Int.emod_def, Int.mul_comm]
  · rw [e5, e2, Int.emod_def, Int.mul_comm]
  · rw [e6, e3, Int.emod_def, Int.mul_comm]

/-- non-negative buckets stay non-negative, and never grow, under collection -/
theorem collect_buckets_nonneg {fI fG fP v : Int} {c : Collected} (h : collectFees fI fG fP v = .ok c)
    (hI : 0 ≤ fI) (hG : 0 ≤ fG) (hP : 0 ≤ fP) :
    0 ≤ c.feeI ∧ c.feeI ≤ fI ∧ 0 ≤ c.feeG ∧ c.feeG ≤ fG ∧ 0 ≤ c.feeP ∧ c.feeP ≤ fP := by
  obtain ⟨e1, e2, e3, e4, e5, e6, i0, g0, p0, -⟩ := collect_exact h
  -- what moves out of a bucket is whole tokens of at most the bucket
  have k1 : c.toInsurance * ONE ≤ fI := e1 ▸ Int.le_trans (mulfloor_le _) (Int.min_le_left _ _)
  have k2 : c.toGroup * ONE ≤ fG := e2 ▸ Int.le_trans (mulfloor_le _) (Int.min_le_left _ _)
  have k3 : c.toProgram * ONE ≤ fP := e3 ▸ Int.le_trans (mulfloor_le _) (Int.min_le_left _ _)
  have q1 := Int.mul_nonneg i0 (le_of_lt ONE_pos)
  have q2 := Int.mul_nonneg g0 (le_of_lt ONE_pos)
  have q3 := Int.mul_nonneg p0 (le_of_lt ONE_pos)
  clear e1 e2 e3
  omega

example : collectFees (5 * ONE + 7) (2 * ONE + 1) (ONE / 2) 6 =
    .ok { feeI := 7, feeG := ONE + 1, feeP := ONE / 2, toInsurance := 5, toGroup := 1, toProgram := 0 } := by decide

def YEAR : Int := 31536000

theorem SPY_eq : SECONDS_PER_YEAR = YEAR * ONE := by decide

/-- `calc_emissions(period = T s, amount, decimals d, rate = R)` is exactly
    `R · ⌊T · ⌊amount/10^d⌋₄₈ / YEAR⌋` (⌊·⌋₄₈ = truncation to 48 fractional bits). -/
theorem calc_closed_form {T amount d R e em : Int} (he : exp10 d = some e) (hpos : 0 < e)
    (hT : 0 ≤ T) (ha : 0 ≤ amount)
    (h : calcEmissions (ofInt T) amount d (ofInt R) = .ok em) :
    em = T * (amount * ONE / e) / YEAR * R := by
  unfold calcEmissions at h
  rw [he] at h
  obtain ⟨e1, h0, h1⟩ := Res.bind_ok h; clear h
  cases h0
  obtain ⟨ui, hui, h2⟩ := Res.bind_ok h1; clear h1
  obtain ⟨a, ha', h3⟩ := Res.bind_ok h2; clear h2
  obtain ⟨b, hb, h4⟩ := Res.bind_ok h3; clear h3
  obtain rfl := div?_ediv ha (math_ok hui)
  obtain rfl := ofInt_mul? (math_ok ha')
  rw [SPY_eq] at hb
  obtain rfl := div?_ofInt (Int.mul_nonneg hT (Int.ediv_nonneg (Int.mul_nonneg ha (le_of_lt ONE_pos)) (le_of_lt hpos))) (math_ok hb)
  exact mul?_ofInt (math_ok h4)

/-- rewards are never negative and never more than the exact proportional amount
    `R · T · (amount/10^d) / YEAR` (every rounding is downwards) -/
theorem calc_le_proportional {T amount d R e em : Int} (he : exp10 d = some e) (hpos : 0 < e)
    (hT : 0 ≤ T) (ha : 0 ≤ amount) (hR : 0 ≤ R)
    (h : calcEmissions (ofInt T) amount d (ofInt R) = .ok em) :
    0 ≤ em ∧ em * (YEAR * e) ≤ R * T * amount * ONE := by
  rw [calc_closed_form he hpos hT ha h]
  have hY : (0 : Int) < YEAR := by decide
  have hui0 : 0 ≤ amount * ONE / e := Int.ediv_nonneg (Int.mul_nonneg ha (le_of_lt ONE_pos)) (le_of_lt hpos)
  have h1 : amount * ONE / e * e ≤ amount * ONE := Int.ediv_mul_le _ (ne_of_gt hpos)
  generalize amount * ONE / e = ui at hui0 h1 ⊢
  have h2 : T * ui / YEAR * YEAR ≤ T * ui := Int.ediv_mul_le _ (ne_of_gt hY)
  refine ⟨Int.mul_nonneg (Int.ediv_nonneg (Int.mul_nonneg hT hui0) (le_of_lt hY)) hR, ?_⟩
  calc T * ui / YEAR * R * (YEAR * e) = R * (T * ui / YEAR * YEAR) * e := by
        simp only [Int.mul_comm, Int.mul_left_comm]
    _ ≤ R * (T * ui) * e := Int.mul_le_mul_of_nonneg_right (Int.mul_le_mul_of_nonneg_left h2 hR) (le_of_lt hpos)
    _ = R * T * (ui * e) := by simp only [Int.mul_assoc]
    _ ≤ R * T * (amount * ONE) := Int.mul_le_mul_of_nonneg_left h1 (Int.mul_nonneg hR hT)
    _ = R * T * amount * ONE := by simp only [Int.mul_assoc]

/-- monotone in elapsed time, position size and rate -/
theorem calc_monotone {T T' amount amount' d R R' e em em' : Int} (he : exp10 d = some e) (hpos : 0 < e)
    (hT : 0 ≤ T) (ha : 0 ≤ amount) (hR : 0 ≤ R) (hTT : T ≤ T') (haa : amount ≤ amount') (hRR : R ≤ R')
    (h : calcEmissions (ofInt T) amount d (ofInt R) = .ok em)
    (h' : calcEmissions (ofInt T') amount' d (ofInt R') = .ok em') : em ≤ em' := by
  rw [calc_closed_form he hpos hT ha h, calc_closed_form he hpos (Int.le_trans hT hTT) (Int.le_trans ha haa) h']
  have hY : (0 : Int) < YEAR := by decide
  have u1 : amount * ONE / e ≤ amount' * ONE / e :=
    Int.ediv_le_ediv hpos (Int.mul_le_mul_of_nonneg_right haa (le_of_lt ONE_pos))
  have u0 : 0 ≤ amount * ONE / e := Int.ediv_nonneg (Int.mul_nonneg ha (le_of_lt ONE_pos)) (le_of_lt hpos)
  have t1 : T * (amount * ONE / e) ≤ T' * (amount' * ONE / e) := Int.mul_le_mul hTT u1 u0 (Int.le_trans hT hTT)
  have b0 : 0 ≤ T * (amount * ONE / e) / YEAR := Int.ediv_nonneg (Int.mul_nonneg hT u0) (le_of_lt hY)
  exact Int.mul_le_mul (Int.ediv_le_ediv hY t1) hRR hR (Int.le_trans b0 (Int.ediv_le_ediv hY t1))

/-- nothing accrues over zero time, on an empty position, or at rate zero -/
theorem calc_zero {T amount d R e em : Int} (he : exp10 d = some e) (hpos : 0 < e)
    (hT : 0 ≤ T) (ha : 0 ≤ amount) (hz : T = 0 ∨ amount = 0 ∨ R = 0)
    (h : calcEmissions (ofInt T) amount d (ofInt R) = .ok em) : em = 0 := by
  rw [calc_closed_form he hpos hT ha h]
  rcases hz with rfl | rfl | rfl
  · rw [Int.zero_mul, Int.zero_ediv, Int.zero_mul]
  · rw [Int.zero_mul, Int.zero_ediv, Int.mul_zero, Int.zero_ediv, Int.zero_mul]
  · rw [Int.mul_zero]

theorem exp10_pos {d e : Int} (h : exp10 d = some e) : 0 < e := by
  unfold exp10 at h
  by_cases hd : 0 ≤ d
  · rw [if_pos hd] at h; exact POW10FX_pos h
  · rw [if_neg hd] at h; cases h

theorem amount_nonneg {s v a : Int} (hs : 0 ≤ s) (hv : 0 ≤ v) (h : math (mul? s v) = .ok a) : 0 ≤ a :=
  mul?_nonneg hs hv (math_ok h)

/-- what `claim_emissions` does, as one statement: some `credit` moves from the bank's
    `emissions_remaining` to the position's `emissions_outstanding`, nothing else changes, and
    the credit is `min(calc_emissions(..), remaining)` (or nothing when the side is not rewarded). -/
structure ClaimSpec (b : Bank) (x : Balance) (now : Int) (b' : Bank) (x' : Balance) : Prop where
  ex : ∃ credit : Int,
    b' = { b with emissionsRemaining := b.emissionsRemaining - credit } ∧
    x' = { x with emis := x.emis + credit, lastUpdate := now } ∧
    (credit = 0 ∨ ∃ amount lu em,
      emissionsBase b x = .ok (some amount) ∧
      lu = (if x.lastUpdate < MIN_EMISSIONS_START_TIME then now else x.lastUpdate) ∧ 0 ≤ now - lu ∧
      calcEmissions (ofInt (now - lu)) amount (balanceDecimals b) (ofInt b.emissionsRate) = .ok em ∧
      credit = min em b.emissionsRemaining)

theorem claim_spec {b b' : Bank} {x x' : Balance} {now : Int} (h : claimEmissions b x now = .ok (b', x')) :
    ClaimSpec b x now b' x' :=
  ⟨claimEmissions_ok h⟩

theorem base_nonneg {b : Bank} {x : Balance} {amount : Int} (h : emissionsBase b x = .ok (some amount))
    (hav : 0 ≤ b.asv) (hlv : 0 ≤ b.lsv) (ha : 0 ≤ x.a) (hl : 0 ≤ x.l) : 0 ≤ amount := by
  unfold emissionsBase at h
  obtain ⟨side, _, h⟩ := Res.bind_ok h
  dsimp only at h
  split at h
  · obtain ⟨v, hv, e⟩ := Res.map_ok h
    cases e; exact amount_nonneg ha hav hv
  · obtain ⟨v, hv, e⟩ := Res.map_ok h
    cases e; exact amount_nonneg hl hlv hv
  · cases h

/-- A claim credits a non-negative amount that never exceeds the funded remainder,
    which therefore stays non-negative; pool + position is conserved exactly. -/
theorem claim_capped {b b' : Bank} {x x' : Balance} {now : Int} (h : claimEmissions b x now = .ok (b', x'))
    (hr : 0 ≤ b.emissionsRemaining) (hrate : 0 ≤ b.emissionsRate)
    (hav : 0 ≤ b.asv) (hlv : 0 ≤ b.lsv) (ha : 0 ≤ x.a) (hl : 0 ≤ x.l) :
    0 ≤ b'.emissionsRemaining ∧ b'.emissionsRemaining ≤ b.emissionsRemaining ∧ x.emis ≤ x'.emis ∧
    b'.emissionsRemaining + x'.emis = b.emissionsRemaining + x.emis := by
  obtain ⟨credit, hb, hx, hc⟩ := (claim_spec h).ex
  have hcr : 0 ≤ credit ∧ credit ≤ b.emissionsRemaining := by
    rcases hc with hc | ⟨amount, lu, em, hbase, _, hdt, hem, hc⟩
    · omega
    · have ha0 := base_nonneg hbase hav hlv ha hl
      cases hexp : exp10 (balanceDecimals b) with
      | none =>
        unfold calcEmissions at hem
        rw [hexp] at hem
        cases hem
      | some e =>
        have := (calc_le_proportional hexp (exp10_pos hexp) hdt ha0 hrate hem).1
        rw [hc]
        exact ⟨Int.le_min.mpr ⟨this, hr⟩, Int.min_le_right _ _⟩
  rw [hb, hx]
  dsimp only
  omega

/-- `settle_emissions_and_get_transfer_amount`: pays out exactly the whole-token part of what the
    position has accrued; pool + position + payout is conserved. -/
theorem settle_exact {b0 b : Bank} {x0 x : Balance} {now amt : Int}
    (h : settleEmissions b0 x0 now = .ok (b, x, amt)) :
    ∃ b1 x1, claimEmissions b0 x0 now = .ok (b1, x1) ∧ b = b1 ∧
      amt = x1.emis / ONE ∧ 0 ≤ amt ∧ x.emis = x1.emis % ONE ∧
      b.emissionsRemaining + x.emis + amt * ONE = b1.emissionsRemaining + x1.emis ∧
      x = { x1 with emis := x.emis } := by
  unfold settleEmissions at h
  obtain ⟨⟨b1, x1⟩, hc, h⟩ := Res.bind_ok h
  dsimp only at h
  obtain ⟨rest, hrest, h⟩ := Res.bind_ok h
  obtain ⟨a, ha, h⟩ := Res.bind_ok h
  injection h with h
  injection h with h1 h2
  injection h2 with h2 h3
  obtain ⟨er, _, _⟩ := sub?_some (math_ok hrest)
  obtain ⟨ea, a0, _⟩ := toU64?_floor (math_ok ha)
  refine ⟨b1, x1, hc, h1.symm, ?_, ?_, ?_, ?_, ?_⟩
  · rw [← h3, ea]
  · rw [← h3]; exact a0
  · rw [← h2]; dsimp only; rw [er]; unfold Fx.floor; rw [Int.emod_def, Int.mul_comm]
  · rw [← h2, ← h1, ← h3, ea]; dsimp only; rw [er]; unfold Fx.floor; omega
  · rw [← h2]

/-- an emissions campaign: the bank, every position in it, tokens paid out so far, tokens funded so far -/
structure Sys where
  bank : Bank
  pos : List Balance
  paid : Int      -- whole tokens that left the emissions vault
  funded : Int    -- I80F48 bits ever added to `emissions_remaining`

inductive Op
  | claim (i : Nat) (now : Int)                 -- settle_emissions / any wrapper op's claim
  | withdraw (i : Nat) (now : Int)              -- withdraw_emissions(_permissionless)
  | fund (tokens : Int) (rate : Int) (flags : Nat)  -- setup / update emissions parameters
  | activity (i : Nat) (a l asv lsv : Int)      -- user activity / accrual changing shares and share values
  | open_ (x : Balance)                         -- a new position

def sumEmis : List Balance → Int
  | [] => 0
  | x :: xs => x.emis + sumEmis xs

def step (s : Sys) : Op → Sys
  | .claim i now =>
    match s.pos[i]? with
    | none => s
    | some x =>
      match claimEmissions s.bank x now with
      | .ok (b', x') => { s with bank := b', pos := s.pos.set i x' }
      | .error _ => s
  | .withdraw i now =>
    match s.pos[i]? with
    | none => s
    | some x =>
      match settleEmissions s.bank x now with
      | .ok (b', x', amt) => { s with bank := b', pos := s.pos.set i x', paid := s.paid + amt }
      | .error _ => s
  | .fund tokens rate flags =>
    if 0 ≤ tokens ∧ 0 ≤ rate then
      { s with bank := { s.bank with emissionsRemaining := s.bank.emissionsRemaining + tokens * ONE,
                                      emissionsRate := rate, flags := flags },
               funded := s.funded + tokens * ONE }
    else s
  | .activity i a l asv lsv =>
    match s.pos[i]? with
    | none => s
    | some x =>
      if 0 ≤ a ∧ 0 ≤ l ∧ 0 ≤ asv ∧ 0 ≤ lsv then
        { s with bank := { s.bank with asv := asv, lsv := lsv }, pos := s.pos.set i { x with a := a, l := l } }
      else s
  | .open_ x => if 0 ≤ x.a ∧ 0 ≤ x.l ∧ x.emis = 0 then { s with pos := s.pos ++ [x] } else s

def PosOk (x : Balance) : Prop := 0 ≤ x.a ∧ 0 ≤ x.l ∧ 0 ≤ x.emis

structure Inv (s : Sys) : Prop where
  rem : 0 ≤ s.bank.emissionsRemaining
  rate : 0 ≤ s.bank.emissionsRate
  asv : 0 ≤ s.bank.asv
  lsv : 0 ≤ s.bank.lsv
  pos : ∀ x ∈ s.pos, PosOk x
  conserve : s.bank.emissionsRemaining + sumEmis s.pos + s.paid * ONE = s.funded
  paid : 0 ≤ s.paid

theorem sumEmis_eq_sum (l : List Balance) : sumEmis l = (l.map (·.emis)).sum := by
  induction l with
  | nil => rfl
  | cons x xs ih => rw [sumEmis, ih, List.map_cons, List.sum_cons]

theorem sumEmis_set {l : List Balance} {i : Nat} {x y : Balance} (h : l[i]? = some x) :
    sumEmis (l.set i y) = sumEmis l - x.emis + y.emis := by
  rw [sumEmis_eq_sum, sumEmis_eq_sum, ListL.sum_map_set (·.emis) l i x y h]

theorem sumEmis_append (l : List Balance) (x : Balance) : sumEmis (l ++ [x]) = sumEmis l + x.emis := by
  rw [sumEmis_eq_sum, sumEmis_eq_sum, List.map_append, List.sum_append, List.map_singleton, List.sum_singleton]

theorem sumEmis_nonneg {l : List Balance} (h : ∀ x ∈ l, PosOk x) : 0 ≤ sumEmis l :=
  sumEmis_eq_sum l ▸ List.sum_nonneg (List.forall_mem_map.2 fun x hx => (h x hx).2.2)

theorem mem_set_cases {l : List Balance} {i : Nat} {y z : Balance} (h : z ∈ l.set i y) : z = y ∨ z ∈ l :=
  (List.mem_or_eq_of_mem_set h).symm

/-- the one way the invariant is kept by an operation on position `i`: the bank and the position stay in range, and pool +
    position + payout is conserved -/
theorem Inv.update {s : Sys} (h : Inv s) {i : Nat} {x x' : Balance} {b' : Bank} {paid' : Int} (hx : s.pos[i]? = some x)
    (hb : 0 ≤ b'.emissionsRemaining ∧ 0 ≤ b'.emissionsRate ∧ 0 ≤ b'.asv ∧ 0 ≤ b'.lsv) (hx' : PosOk x') (hp : 0 ≤ paid')
    (hc : b'.emissionsRemaining + x'.emis + paid' * ONE = s.bank.emissionsRemaining + x.emis + s.paid * ONE) :
    Inv { s with bank := b', pos := s.pos.set i x', paid := paid' } := by
  refine ⟨hb.1, hb.2.1, hb.2.2.1, hb.2.2.2, ListL.forall_mem_set h.pos hx', ?_, hp⟩
  have := h.conserve
  simp only [sumEmis_set hx]; omega

theorem inv_step {s : Sys} (h : Inv s) (op : Op) : Inv (step s op) := by
  cases op with
  | claim i now =>
    simp only [step]
    cases hx : s.pos[i]? with
    | none => exact h
    | some x =>
      simp only
      cases hc : claimEmissions s.bank x now with
      | error e => exact h
      | ok r =>
        obtain ⟨b', x'⟩ := r
        obtain ⟨pa, pl, pe⟩ := h.pos x (List.mem_of_getElem? hx)
        obtain ⟨c1, -, c3, c4⟩ := claim_capped hc h.rem h.rate h.asv h.lsv pa pl
        obtain ⟨⟨r, rfl⟩, ⟨e, rfl⟩⟩ := claim_frame hc
        exact h.update hx ⟨c1, h.rate, h.asv, h.lsv⟩ ⟨pa, pl, Int.le_trans pe c3⟩ h.paid (by omega)
  | withdraw i now =>
    simp only [step]
    cases hx : s.pos[i]? with
    | none => exact h
    | some x =>
      simp only
      cases hs : settleEmissions s.bank x now with
      | error e => exact h
      | ok r =>
        obtain ⟨b', x', amt⟩ := r
        -- the claim as above, then the whole tokens of the position's credit leave and its fraction stays
        obtain ⟨pa, pl, pe⟩ := h.pos x (List.mem_of_getElem? hx)
        obtain ⟨b1, x1, hc, rfl, -, a0, hfrac, hcons, hfr⟩ := settle_exact hs
        obtain ⟨c1, -, -, c4⟩ := claim_capped hc h.rem h.rate h.asv h.lsv pa pl
        obtain ⟨⟨r, rfl⟩, ⟨e, rfl⟩⟩ := claim_frame hc
        refine h.update hx ⟨c1, h.rate, h.asv, h.lsv⟩ ⟨?_, ?_, hfrac ▸ Int.emod_nonneg _ (by decide)⟩
          (Int.add_nonneg h.paid a0) (by rw [Int.add_mul]; omega)
        · rw [hfr]; exact pa
        · rw [hfr]; exact pl
  | fund tokens rate flags =>
    simp only [step]
    split
    · rename_i hg
      have : 0 ≤ tokens * ONE := Int.mul_nonneg hg.1 (le_of_lt ONE_pos)
      refine ⟨by simp only; have := h.rem; omega, hg.2, h.asv, h.lsv, h.pos, ?_, h.paid⟩
      have := h.conserve
      simp only; omega
    · exact h
  | activity i a l asv lsv =>
    simp only [step]
    cases hx : s.pos[i]? with
    | none => exact h
    | some x =>
      simp only
      split
      · rename_i hg
        exact h.update hx ⟨h.rem, h.rate, hg.2.2.1, hg.2.2.2⟩ ⟨hg.1, hg.2.1, (h.pos x (List.mem_of_getElem? hx)).2.2⟩ h.paid rfl
      · exact h
  | open_ x =>
    simp only [step]
    split
    · rename_i hg
      refine ⟨h.rem, h.rate, h.asv, h.lsv, ?_, ?_, h.paid⟩
      · intro z hz
        rcases List.mem_append.mp hz with hz | hz
        · exact h.pos z hz
        · simp only [List.mem_singleton] at hz; subst hz; exact ⟨hg.1, hg.2.1, by omega⟩
      · have := h.conserve
        simp only [sumEmis_append]; omega
    · exact h

/-- Over every history of claims, withdrawals, re-funding,
    user activity and new positions (any number of positions, any times, rates and sizes), the
    tokens paid out plus everything credited but unpaid plus the remaining pool equal exactly
    what was funded; so payouts (and credits) never exceed the funded amount. -/
theorem emissions_never_exceed_funding (s : Sys) (ops : List Op) (h : Inv s) :
    Inv (ops.foldl step s) ∧
    (ops.foldl step s).paid * ONE + sumEmis (ops.foldl step s).pos ≤ (ops.foldl step s).funded := by
  have hinv : Inv (ops.foldl step s) := by
    induction ops generalizing s with
    | nil => exact h
    | cons op ops ih => exact ih _ (inv_step h op)
  refine ⟨hinv, ?_⟩
  have := hinv.conserve
  have := hinv.rem
  omega

def exBank : Bank :=
  { asv := ONE, lsv := ONE, sa := 0, sl := 0, feeI := 0, feeG := 0, feeP := 0, depositLimit := 0,
    borrowLimit := 0, flags := 0, assetTag := 0, mintDecimals := 6, emissionsRate := 0,
    emissionsRemaining := 0, lendCnt := 0, borrowCnt := 0, lastUpdate := 0, cacheAccum := 0, cacheFor := 0 }

/-- the invariant's premises are met by a fresh bank with no positions -/
example : Inv { bank := exBank, pos := [], paid := 0, funded := 0 } :=
  ⟨by decide, by decide, by decide, by decide, by simp, by decide, by decide⟩

/-- A position can be closed (complete withdrawal, complete repayment, balance closure: all three go
    through `Balance::close(check_emissions = true)`) only while LESS than one whole emission token is unclaimed — strictly: with
    exactly one token outstanding the closure is refused, so no reward that could be paid is ever dropped by closing. -/
theorem closing_pays_out_first {bal bal' : Balance} (h : closeBalance bal true = .ok bal') : bal.emis < ONE ∧ bal' = emptyDeactivated := by
  unfold closeBalance at h
  obtain ⟨hc, h⟩ := Res.of_ite_error h
  exact ⟨by simpa using hc, (Res.pure_ok h).symm⟩

/-- (the boundary itself) exactly one token outstanding is refused, one ulp less is accepted -/
example : closeBalance { active := true, tag := 0, a := 0, l := 0, emis := ONE, lastUpdate := 0 } true = .error (.err E.CannotCloseOutstandingEmissions) := by decide
example : (closeBalance { active := true, tag := 0, a := 0, l := 0, emis := ONE - 1, lastUpdate := 0 } true).isOk = true := by decide

/-! ### who can move vault funds, and where to (tables regenerated from the source on every run) -/

section tables
open Mfi.Gen.Skel Mfi.Gen.Acc

/-- the insurance-vault authority signs only in bankruptcy cover and the admin's insurance withdrawal -/
theorem insurance_vault_signers : ∀ p ∈ vaultUses, p.2 = Vault.insurance →
    p.1 = .fn_lending_pool_handle_bankruptcy ∨ p.1 = .fn_lending_pool_withdraw_insurance := by decide

/-- the fee-vault authority signs only in the two fee withdrawals -/
theorem fee_vault_signers : ∀ p ∈ vaultUses, p.2 = Vault.fee →
    p.1 = .fn_lending_pool_withdraw_fees ∨ p.1 = .fn_lending_pool_withdraw_fees_permissionless := by decide

/-- fee collection checks the fee ATA first, then makes exactly three transfers out of the
    liquidity vault, each signed by the liquidity-vault authority and by no other vault authority -/
theorem collect_shape :
    collect_bank_fees.head? = some .feeAtaCheck ∧
    (collect_bank_fees.filter (· == .transferOut)).length = 3 ∧
    (∀ e ∈ collect_bank_fees, isSigner .insurance e = false ∧ isSigner .fee e = false ∧ isSigner .unknown e = false) ∧
    withdraw_fees = [.transferOut, .signer .fee] ∧
    withdraw_fees_permissionless = [.transferOut, .signer .fee] ∧
    withdraw_insurance = [.transferOut, .signer .insurance] := by decide

/-- the collection accounts are all bound to the bank: vaults, their authority and the fee state are
    PDAs (seeds constraint), the bank belongs to the group -/
theorem collect_accounts_bound :
    (∀ f ∈ [F.f_liquidity_vault, .f_insurance_vault, .f_fee_vault, .f_liquidity_vault_authority, .f_fee_state],
      (fieldOf .LendingPoolCollectBankFees f).map (·.hasSeeds) = some true) ∧
    hasOneOf .LendingPoolCollectBankFees .f_bank .f_group = true := by decide

/-- draw-down of the fee and insurance vaults: the group admin signs (`has_one = admin` on the
    group, `admin: Signer`), vault and authority are the bank's PDAs -/
theorem admin_drawdown : ∀ s ∈ [S.LendingPoolWithdrawFees, .LendingPoolWithdrawInsurance],
    hasOneOf s .f_group .f_admin = true ∧ Acc.isSigner s .f_admin = true ∧ hasOneOf s .f_bank .f_group = true := by
  decide

theorem admin_drawdown_vaults :
    (fieldOf .LendingPoolWithdrawFees .f_fee_vault).map (·.hasSeeds) = some true ∧
    (fieldOf .LendingPoolWithdrawFees .f_fee_vault_authority).map (·.hasSeeds) = some true ∧
    (fieldOf .LendingPoolWithdrawInsurance .f_insurance_vault).map (·.hasSeeds) = some true ∧
    (fieldOf .LendingPoolWithdrawInsurance .f_insurance_vault_authority).map (·.hasSeeds) = some true := by decide

/-- anyone may sweep fees, but only into the destination stored in the bank (`has_one =
    fees_destination_account`), which only the group admin can set -/
theorem permissionless_fee_destination :
    hasOneOf .LendingPoolWithdrawFeesPermissionless .f_bank .f_fees_destination_account = true ∧
    hasOneOf .LendingPoolWithdrawFeesPermissionless .f_bank .f_group = true ∧
    (fieldOf .LendingPoolWithdrawFeesPermissionless .f_fee_vault).map (·.hasSeeds) = some true ∧
    hasOneOf .LendingPoolUpdateFeesDestinationAccount .f_group .f_admin = true ∧
    Acc.isSigner .LendingPoolUpdateFeesDestinationAccount .f_admin = true ∧
    hasOneOf .LendingPoolUpdateFeesDestinationAccount .f_bank .f_group = true := by decide

/-- emissions are paid either to a destination passed by an authorised signer of the account, or
    (permissionless) after the destination check against the account's stored wallet, which only
    the account authority can set; the vault and its authority are PDAs of (bank, mint) -/
theorem emissions_destinations :
    hasCons .LendingAccountWithdrawEmissions .f_marginfi_account (.signerAuth .f_marginfi_account .f_authority false) = true ∧
    hasCons .LendingAccountWithdrawEmissions .f_marginfi_account (.notFrozen .f_marginfi_account .f_authority) = true ∧
    Acc.isSigner .LendingAccountWithdrawEmissions .f_authority = true ∧
    hasOneOf .MarginfiAccountUpdateEmissionsDestinationAccount .f_marginfi_account .f_authority = true ∧
    Acc.isSigner .MarginfiAccountUpdateEmissionsDestinationAccount .f_authority = true ∧
    occursBefore withdraw_emissions_permissionless (· == .emisDestCheck) (fun e => e == .settleEmissions || e == .transferChecked) = true ∧
    (∀ s ∈ [S.LendingAccountWithdrawEmissions, .LendingAccountWithdrawEmissionsPermissionless],
      (fieldOf s .f_emissions_vault).map (·.hasSeeds) = some true ∧
      (fieldOf s .f_emissions_auth).map (·.hasSeeds) = some true ∧
      hasOneOf s .f_bank .f_emissions_mint = true ∧ hasOneOf s .f_bank .f_group = true ∧
      hasOneOf s .f_marginfi_account .f_group = true) := by decide

/-- the emission payout follows the settlement: what is transferred is what was settled -/
theorem emissions_payout_after_settle :
    occursBefore withdraw_emissions (· == .settleEmissions) (· == .transferChecked) = true ∧
    occursBefore withdraw_emissions_permissionless (· == .settleEmissions) (· == .transferChecked) = true ∧
    settle_emissions = [.find, .claimEmissions] := by decide

end tables

/-- emissions are computed on the position's amount divided by the row chosen by the mint decimals: that table is exactly the powers of ten 10^0 .. 10^23 as I80F48 (regenerated from the real
    constants on every run; the model computes its own powers of ten and is diffed against the real functions across
    ALL 24 decimals) -/
theorem scaling_table_is_powers_of_ten : Mfi.Gen.EXP_10_I80F48 = Mfi.Fx.POW10FX := Mfi.ConstL.exp10_table_exact

/-- the destination-mint constraints of the fee sweeps (`destination_account.mint == bank.mint`) and the group test of settle_emissions have no recognised kind in the generated constraint table; their text is pinned by fingerprint
    (C08.unclassified_constraints_pinned), so an edit of any of them breaks an obligation of this property too -/
theorem unclassified_constraints_pinned :
    Mfi.Gen.Acc.otherFingerprints =
      [(.LendingPoolAddBankKamino, .f_integration_acc_1, 1294895318964715725), (.KaminoDeposit, .f_integration_acc_2, 102789841884831255),
       (.KaminoDeposit, .f_integration_acc_2, 2232305478470895852), (.KaminoWithdraw, .f_integration_acc_2, 2232305478470895852),
       (.KaminoWithdraw, .f_integration_acc_2, 102789841884831255), (.LendingAccountSettleEmissions, .f_marginfi_account, 1925430640847475726),
       (.LendingPoolAddBankSolend, .f_integration_acc_1, 1481642461694787521),
       (.SolendDeposit, .f_integration_acc_2, 1332785733999453949), (.SolendWithdraw, .f_integration_acc_2, 1332785733999453949),
       (.LendingPoolUpdateFeesDestinationAccount, .f_destination_account, 2287509815940661847), (.LendingPoolWithdrawFeesPermissionless, .f_fees_destination_account, 442390752958412362),
       (.PropagateStakedSettings, .f_bank, 192467567798966075), (.LendingPoolAddBankDrift, .f_integration_acc_1, 778144333709451630),
       (.DriftDeposit, .f_integration_acc_2, 3003145849582993), (.DriftDeposit, .f_integration_acc_1, 1555694171009604275),
       (.DriftHarvestReward, .f_integration_acc_2, 522844572761367543), (.DriftHarvestReward, .f_harvest_drift_spot_market, 1082706562961323273),
       (.DriftHarvestReward, .f_harvest_drift_spot_market, 2159362736921184234), (.DriftWithdraw, .f_integration_acc_2, 3003145849582993),
       (.DriftWithdraw, .f_integration_acc_2, 471323873936025127), (.DriftWithdraw, .f_integration_acc_2, 1377500195096470279),
       (.DriftWithdraw, .f_integration_acc_1, 1555694171009604275)] :=
  Mfi.Props.C08.unclassified_constraints_pinned

/-- what the emissions vault receives when the emissions admin funds `total` (the transfer is sized by calculate_pre_fee_spl_deposit_amount for the emissions mint in the current epoch) is at least the `total` credited to emissions_remaining — in every epoch, also the one in which a scheduled fee change activates (C03 mint_prefee_covers; tf.mint lines of the tokenfee family run here too) -/
theorem emissions_funding_arrives {m : Mfi.Token.Mint} {epoch post pre f : Int} (hp : 0 ≤ post)
    (hm : ∀ c, m = .t22fee c → Mfi.FreeL.FeeCfgOk c)
    (h : Mfi.Token.mintPre m epoch post = some pre) (hf : Mfi.Token.mintFee m epoch pre = some f) : post ≤ pre - f :=
  Mfi.FreeL.mint_prefee_covers hp hm h hf

section whole_instructions
open Mfi Mfi.World Mfi.Gen Mfi.Gen.Acc

/-- `lending_account_withdraw_emissions` goes through only in a group that is not paused,
    for the account's authority (or the group admin of a frozen account) — there is no receivership path —, on an account and a
    bank of that group, with the BANK'S OWN emissions mint, on an account that is not disabled; what leaves the emissions vault is
    exactly the whole-token part of `settle_emissions` of the position at the current time (the claim up to now credited first,
    the fraction kept on the position), the bank's remaining pool falls by what was credited, and nothing else of the account
    changes (no other slot, no re-sort). -/
theorem world_withdraw_emissions_spec {c : Ctx} {o : Out} (h : World.withdrawEmissions c = .ok o) :
    c.g.paused = false ∧ c.a.group = c.g.key ∧ c.b.group = c.g.key ∧ c.b.emissionsMint = c.emisMint ∧
    Auth.notFrozenForAuthority (acctView c.a.authority c.a.flags) c.signer = true ∧
    Auth.isSignerAuthorized (acctView c.a.authority c.a.flags) c.g.admin c.signer false = true ∧
    flag c ACCOUNT_DISABLED = false ∧
    ∃ i s x', findSlot c = .ok (i, s) ∧ Bank.settleEmissions c.b.books (toBal s) c.now = .ok (o.books, x', o.tokens) ∧
      o.slots = c.a.slots.set i (ofBal c.b.key x') := by
  have k := withdrawEmissions_ok h
  exact ⟨k.checks.notPaused, k.checks.acctGroup, k.checks.bankGroup, k.mint, k.checks.notFrozen, k.checks.signer, k.flags, k.core⟩

/-- The permissionless `lending_pool_collect_bank_fees` goes through only in a group that is not paused,
    on a bank of that group, with the fee ATA of the global fee wallet for the bank's mint; then the insurance vault, the fee
    vault and the program's ATA receive the whole-token parts of min(bucket, liquidity still available) in that order of claims
    on the liquidity vault, each bucket falls by exactly what moved to ITS destination, together no more than the vault holds,
    and nothing else of the books changes (no accrual, no share value, no total). -/
theorem world_collect_spec {c : Ctx} {ok : Bool} {o : CollectOut} (h : World.collectFeesIx c ok = .ok o) :
    c.g.paused = false ∧ c.b.group = c.g.key ∧ ok = true ∧
    o.toInsurance = min c.b.books.feeI (c.vaultAmount * ONE) / ONE ∧
    o.toGroup = min c.b.books.feeG ((c.vaultAmount - o.toInsurance) * ONE) / ONE ∧
    o.toProgram = min c.b.books.feeP ((c.vaultAmount - o.toInsurance - o.toGroup) * ONE) / ONE ∧
    o.books = { c.b.books with feeI := c.b.books.feeI - o.toInsurance * ONE, feeG := c.b.books.feeG - o.toGroup * ONE,
                               feeP := c.b.books.feeP - o.toProgram * ONE } ∧
    0 ≤ o.toInsurance ∧ 0 ≤ o.toGroup ∧ 0 ≤ o.toProgram ∧ o.toInsurance + o.toGroup + o.toProgram ≤ c.vaultAmount := by
  obtain ⟨c1, c2, hok, r, hr, rfl⟩ := collectFeesIx_spec h
  obtain ⟨e1, e2, e3, e4, e5, e6, n1, n2, n3, n4⟩ := collect_exact hr
  refine ⟨c1, c2, hok, e1, e2, e3, ?_, n1, n2, n3, n4⟩
  simp only
  rw [e4, e5, e6]

end whole_instructions

end Mfi.Props.C19
