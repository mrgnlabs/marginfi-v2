/-
  C10 — Receivership liquidation is bracketed, restricted, and cannot worsen health.

  Theorems about Mfi/Model/Tx.lean (`validateInstructions` = validate_instructions + ix_utils.rs, diffed
  against the REAL functions on generated transaction shapes by the `tx` family; its lists regenerated from
  the source) and about whole transactions (`run`): every handler part that is not about the transaction
  shape is an arbitrary oracle, so the theorems hold whatever health / balances / signers do.
-/
import Mfi.Lemmas.TxLem
import Mfi.Lemmas.RiskL
import Mfi.Lemmas.SkelL
import Mfi.Lemmas.AccL
import Mfi.Lemmas.WorldRecvL

namespace Mfi.Props.C10
open Mfi Mfi.Tx Mfi.Gen

/-- everything an accepted `validate_instructions` guarantees about the transaction -/
structure ValidSpec (ixs : List Ix) (cur s e : Nat) : Prop where
  curIx : ∃ c, ixs[cur]? = some c ∧ c.prog = MRGN
  notLast : cur < ixs.length - 1
  programs : ∀ y ∈ ixs, TxL.allowedPrograms.contains y.prog = true
  unique : ∀ i j (hi : i < ixs.length) (hj : j < ixs.length),
    isStartOf s ixs[i] = true → isStartOf s ixs[j] = true → i = j
  pre : ∃ k, ∃ hk : k < ixs.length, isStartOf s ixs[k] = true ∧
    ∀ j (hj : j < k), ixs[j].prog = COMPUTE ∨ ∃ x, ixs[j].disc = some x ∧ TxL.firstWhitelist.contains (ixs[j].prog, x) = true
  last : ∃ x, ixs.getLast? = some x ∧ x.prog = MRGN ∧ x.disc = some e
  exclusive : ∀ y ∈ ixs, y.prog = MRGN → ∃ x, y.disc = some x ∧ (exclusiveList s e).contains x = true

theorem valid_spec {ixs : List Ix} {cur s e : Nat} (h : validateInstructions ixs cur 1 s e = .ok ()) :
    ValidSpec ixs cur s e := by
  unfold validateInstructions at h
  obtain ⟨_, h1, h⟩ := Res.bind_ok h
  obtain ⟨_, h2, h⟩ := Res.bind_ok h
  obtain ⟨_, h3, h⟩ := Res.bind_ok h
  obtain ⟨_, h4, h⟩ := Res.bind_ok h
  obtain ⟨_, h⟩ := Res.of_ite_not_error h
  revert h
  cases hc : ixs[cur]? with
  | none => intro h; cases h
  | some c =>
    intro h
    obtain ⟨hp, h⟩ := Res.of_ite_not_error h
    exact ⟨⟨c, hc, hp⟩, (Res.of_ite_else_error h).1, programs_all h1, firstLoop_unique h2, firstLoop_prefix h2, last_spec h3,
      exclusive_all h4⟩

/-- an accepted bracket has at least two instructions and the start is the FIRST program instruction after
    compute-budget / whitelisted refresh and record-init instructions, the end is the LAST instruction,
    only allowed programs appear, and of this program only start, end, record-init, withdraw and repay
    (plus the integration withdraws) -/
theorem bracket_shape {ixs : List Ix} {cur : Nat} {c : Ix} (hc : ixs[cur]? = some c) (hs : isStartOf D_START_LIQ c = true)
    (h : validateInstructions ixs cur 1 D_START_LIQ D_END_LIQ = .ok ()) :
    (∀ j (hj : j < cur), ∃ hj' : j < ixs.length,
        ixs[j].prog = COMPUTE ∨ ∃ x, ixs[j].disc = some x ∧ TxL.firstWhitelist.contains (ixs[j].prog, x) = true) ∧
    (∃ x, ixs.getLast? = some x ∧ x.prog = MRGN ∧ x.disc = some D_END_LIQ) ∧
    cur + 1 < ixs.length ∧
    (∀ y ∈ ixs, TxL.allowedPrograms.contains y.prog = true) ∧
    (∀ y ∈ ixs, y.prog = MRGN → ∃ x, y.disc = some x ∧
        (x = D_START_LIQ ∨ x = D_END_LIQ ∨ x = D_INIT_RECORD ∨ x = D_WITHDRAW ∨ x = D_REPAY ∨ x = 7 ∨ x = 8)) := by
  have v := valid_spec h
  obtain ⟨k, hk, sk, hp⟩ := v.pre
  obtain ⟨hcur, rfl⟩ := List.getElem?_eq_some_iff.mp hc
  obtain rfl : k = cur := v.unique k cur hk hcur sk hs
  refine ⟨fun j hj => ⟨by omega, hp j hj⟩, v.last, by have := v.notLast; omega, v.programs, fun y hy hm => ?_⟩
  obtain ⟨x, hd, hx⟩ := v.exclusive y hy hm
  refine ⟨x, hd, ?_⟩
  have hx' : x ∈ exclusiveList D_START_LIQ D_END_LIQ := by simpa using hx
  rw [show exclusiveList D_START_LIQ D_END_LIQ = [0, 1, 4, 5, 6, 7, 8] by decide] at hx'
  simp only [List.mem_cons, List.mem_nil_iff, or_false] at hx'
  simp only [D_START_LIQ, D_END_LIQ, D_INIT_RECORD, D_WITHDRAW, D_REPAY]
  omega

theorem getElem?_of_split {pre suf post : List Ix} {ix : Ix} {ixs : List Ix} {k : Nat}
    (h : ixs = pre ++ (ix :: suf) ++ post) (hk : pre.length = k) : ixs[k]? = some ix := getElem?_mid h hk

theorem started_unique {ixs : List Ix} {i j a b : Nat} (h1 : Started ixs i a) (h2 : Started ixs j b) :
    i = j ∧ a = b := by
  obtain ⟨x, s, e, hx, xp, xa, xd, hse, hval⟩ := h1.kind
  obtain ⟨y, s', e', hy, yp, ya, yd', hse', _⟩ := h2.kind
  obtain ⟨hi, rfl⟩ := List.getElem?_eq_some_iff.mp hx
  obtain ⟨hj, rfl⟩ := List.getElem?_eq_some_iff.mp hy
  have v := valid_spec hval
  -- the second start is an instruction of this program, so the first start's validation allows its discriminator: same kind
  obtain ⟨z, yd, hz⟩ := v.exclusive _ (List.getElem_mem hj) yp
  cases yd.symm.trans yd'
  have ys : ixs[j].disc = some s := by
    have n1 : (exclusiveList D_START_LIQ D_END_LIQ).contains D_START_DELEV = false := by decide
    have n2 : (exclusiveList D_START_DELEV D_END_DELEV).contains D_START_LIQ = false := by decide
    rcases hse with ⟨rfl, rfl⟩ | ⟨rfl, rfl⟩ <;> rcases hse' with ⟨rfl, rfl⟩ | ⟨rfl, rfl⟩
    · exact yd
    · rw [n1] at hz; cases hz
    · rw [n2] at hz; cases hz
    · exact yd
  obtain rfl : i = j := v.unique i j hi hj (by simp [isStartOf, xp, xd]) (by simp [isStartOf, yp, ys])
  exact ⟨rfl, Option.some.inj (xa.symm.trans ya)⟩

/-- invariant: a set receivership flag is backed by a validated start earlier in this transaction -/
def RecvInv (ixs : List Ix) (k : Nat) (st : State) : Prop :=
  ∀ a, (st a).recv = true → ∃ i, i < k ∧ Started ixs i a

theorem runAux_inv {ixs : List Ix} {orc : Nat → Bool} :
    ∀ (suf pre post : List Ix) (k : Nat) (st st' : State), ixs = pre ++ suf ++ post → pre.length = k →
      runAux ixs orc suf k st = .ok st' → RecvInv ixs k st → RecvInv ixs (k + suf.length) st' :=
  runAux_ind (RecvInv ixs) fun k _ _ _ hget he hi a ha => by
    rcases exec_recv hget he a ha with h0 | h0
    · obtain ⟨i, hik, hs⟩ := hi a h0
      exact ⟨i, Nat.lt_succ_of_lt hik, hs⟩
    · exact ⟨k, Nat.lt_succ_self k, h0⟩

theorem runAux_snoc {ixs : List Ix} {orc : Nat → Bool} {x : Ix} :
    ∀ (l : List Ix) (k : Nat) (st st' : State), runAux ixs orc (l ++ [x]) k st = .ok st' →
      ∃ st1, runAux ixs orc l k st = .ok st1 ∧ exec ixs orc (k + l.length) x st1 = .ok st' := by
  intro l k st st' h
  rw [runAux_append] at h
  obtain ⟨st1, h1, h2⟩ := Res.bind_ok h
  obtain ⟨st2, he, h2⟩ := runAux_cons_ok h2
  cases h2
  exact ⟨st1, h1, he⟩

/-- the last instruction of a transaction that contains a validated start, and the state before it -/
theorem last_step {ixs : List Ix} {orc : Nat → Bool} {st0 st' : State} {i a : Nat}
    (hrun : run ixs orc st0 = .ok st') (h0 : ∀ a, (st0 a).recv = false) (hs : Started ixs i a) :
    ∃ (x : Ix) (b : Nat) (st1 : State), ixs.getLast? = some x ∧ x.prog = MRGN ∧ x.acct0 = some b ∧
      (x.disc = some D_END_LIQ ∨ x.disc = some D_END_DELEV) ∧
      RecvInv ixs (ixs.length - 1) st1 ∧ (st1 b).recv = true ∧ (st' b).recv = false ∧ (∀ c, c ≠ b → st' c = st1 c) := by
  obtain ⟨_, _, e, _, _, _, _, hse, hval⟩ := hs.kind
  have v := valid_spec hval
  obtain ⟨x, hl, xp, xd⟩ := v.last
  have he : e = D_END_LIQ ∨ e = D_END_DELEV := hse.imp (·.2) (·.2)
  have inv0 : RecvInv ixs 0 st0 := fun a ha => by rw [h0 a] at ha; cases ha
  obtain ⟨st1, st2, inv1, hx, hrest⟩ := run_at runAux_inv hrun inv0 (List.getLast?_eq_getElem?.symm.trans hl)
  -- nothing is left to run after the last instruction
  rw [List.drop_eq_nil_of_le (by have := v.notLast; omega)] at hrest
  cases hrest
  obtain ⟨b, xb, e1, e2, e3⟩ := exec_end xp xd he hx
  refine ⟨x, b, st1, hl, xp, xb, ?_, inv1, e1, e2, e3⟩
  rcases he with rfl | rfl
  · exact .inl xd
  · exact .inr xd

/-- Whatever the instructions of a transaction are and whatever the
    health / balance / signer checks decide, if the transaction succeeds and no account was in
    receivership before it, no account is in receivership after it. -/
theorem receivership_never_survives (ixs : List Ix) (orc : Nat → Bool) (st0 st' : State)
    (h0 : ∀ a, (st0 a).recv = false) (hrun : run ixs orc st0 = .ok st') : ∀ a, (st' a).recv = false := by
  intro a
  cases hra : (st' a).recv with
  | false => rfl
  | true =>
    exfalso
    have inv0 : RecvInv ixs 0 st0 := fun a ha => by rw [h0 a] at ha; cases ha
    obtain ⟨i, _, hs⟩ := run_ind runAux_inv hrun inv0 a hra
    obtain ⟨x, b, st1, _, _, _, _, inv1, r1, r2, r3⟩ := last_step hrun h0 hs
    have hab : a ≠ b := by intro hab; subst hab; rw [r2] at hra; cases hra
    have ha1 : (st1 a).recv = true := by rw [← r3 a hab]; exact hra
    obtain ⟨i1, _, s1⟩ := inv1 a ha1
    obtain ⟨i2, _, s2⟩ := inv1 b r1
    exact hab (started_unique s1 s2).2

/-- In a successful transaction, a validated start for account
    `a` means the LAST instruction is this program's end instruction of the same kind FOR THE SAME ACCOUNT,
    and it executed (so its health / premium checks passed). -/
theorem bracket_closed_by_matching_end (ixs : List Ix) (orc : Nat → Bool) (st0 st' : State) (i a : Nat)
    (h0 : ∀ a, (st0 a).recv = false) (hrun : run ixs orc st0 = .ok st') (hs : Started ixs i a) :
    ∃ x, ixs.getLast? = some x ∧ x.prog = MRGN ∧ x.acct0 = some a ∧
      ((∃ sx, ixs[i]? = some sx ∧ sx.disc = some D_START_LIQ ∧ x.disc = some D_END_LIQ) ∨
       (∃ sx, ixs[i]? = some sx ∧ sx.disc = some D_START_DELEV ∧ x.disc = some D_END_DELEV)) ∧
      i < ixs.length - 1 := by
  obtain ⟨x, b, st1, hl, xp, xb, _, inv1, r1, _, _⟩ := last_step hrun h0 hs
  obtain ⟨i2, _, s2⟩ := inv1 b r1
  obtain ⟨_, rfl⟩ := started_unique hs s2
  obtain ⟨sx, s, e, hsx, _, _, sd, hse, hval⟩ := hs.kind
  obtain ⟨y, hy, _, yd⟩ := (valid_spec hval).last
  cases hl.symm.trans hy
  refine ⟨x, hl, xp, xb, ?_, (valid_spec hval).notLast⟩
  rcases hse with ⟨rfl, rfl⟩ | ⟨rfl, rfl⟩
  · exact .inl ⟨sx, hsx, sd, yd⟩
  · exact .inr ⟨sx, hsx, sd, yd⟩

/-- a start is refused (whatever else) when the account is already in receivership, in a flash loan or
    disabled, and a second start in the same transaction is refused: at most one account is ever in
    receivership inside a transaction -/
theorem one_receivership_at_a_time (ixs : List Ix) (orc : Nat → Bool) :
    ∀ (suf pre post : List Ix) (k : Nat) (st st' : State), ixs = pre ++ suf ++ post → pre.length = k →
      runAux ixs orc suf k st = .ok st' → RecvInv ixs k st →
      ∀ a b, (st' a).recv = true → (st' b).recv = true → a = b := by
  intro suf pre post k st st' hsplit hk h hi a b ha hb
  have inv := runAux_inv suf pre post k st st' hsplit hk h hi
  obtain ⟨_, _, s1⟩ := inv a ha
  obtain ⟨_, _, s2⟩ := inv b hb
  exact (started_unique s1 s2).2

/-! ### the handler side: tables regenerated from the source -/

section tables
open Mfi.Gen.Skel

/-- only `start_receivership` sets ACCOUNT_IN_RECEIVERSHIP and only `end_receivership` clears it; nothing
    writes the flag word wholesale except the account transfer (which first refuses accounts in
    receivership or in a flash loan) -/
theorem receivership_flag_writers :
    (∀ w ∈ TxL.flagWrites, w.2.2 = TxL.Flag.inReceivership →
      (w.1 = .fn_start_receivership ∧ w.2.1 = true) ∨ (w.1 = .fn_end_receivership ∧ w.2.1 = false)) ∧
    (∀ w ∈ TxL.flagWrites, w.2.2 = TxL.Flag.rawCopy →
      w.1 = .fn_transfer_to_new_account ∨ w.1 = .fn_transfer_to_new_account_pda) ∧
    (∀ l ∈ [transfer_to_new_account, transfer_to_new_account_pda],
      occursBefore l (· == .acctFlag .inReceivership) (· == .copyFlags) = true ∧
      occursBefore l (· == .acctFlag .inFlashloan) (· == .copyFlags) = true) := by decide

/-- start: the maintenance-health precondition is evaluated before the flag is set, the transaction
    shape is validated in the same instruction; end: no CPI, the health comparison comes before the
    flag is cleared, the flag and the receiver are ALWAYS cleared on the success path (no early
    `return Ok`), classic liquidation checks the premium -/
theorem handler_shape :
    start_receivership = [.healthPreLiq, .setFlag .inReceivership] ∧
    start_liquidation = [.callStartReceivership, .validateIxs] ∧
    start_deleverage = [.setFlag .inDeleverage, .callStartReceivership, .validateIxs] ∧
    end_receivership = [.healthPreLiq, .worseHealthCheck, .unsetFlag .inReceivership, .clearReceiver] ∧
    end_liquidation = [.notCpi, .callEndReceivership, .premiumCheck] ∧
    end_deleverage = [.notCpi, .unsetFlag .inDeleverage, .callEndReceivership] := by decide

/-- clearing the flag and the receiver, and the start-side health pre-condition and flag, are unconditional;
    in end_liquidation only the premium check is conditional (it is waived for accounts under five dollars) -/
theorem bracket_unconditional :
    condAt end_receivership end_receivership_cond (· == .unsetFlag .inReceivership) = some 0 ∧
    condAt end_receivership end_receivership_cond (· == .clearReceiver) = some 0 ∧
    condAt end_receivership end_receivership_cond (· == .healthPreLiq) = some 0 ∧
    allUnconditional start_receivership_cond = true ∧ allUnconditional start_liquidation_cond = true ∧
    end_liquidation_cond = [0, 0, 1] := by decide

/-- the checks of `validate_instructions` are all present, and it is called with the (start, end)
    discriminator pairs the model uses -/
theorem validate_checks_present :
    TxL.checks = [.load, .first, .last, .exclusive, .stackHeight, .sysvarCpi] ∧
    TxL.liqPair = (D_START_LIQ, D_END_LIQ) ∧ TxL.delevPair = (D_START_DELEV, D_END_DELEV) ∧
    TxL.firstUsesStartArg = true ∧ TxL.lastUsesEndArg = true := by decide

/-- account constraints: start only on an account that is not in receivership / flash loan / disabled and
    whose liquidation record it is; end only while in receivership, signed by the recorded receiver -/
theorem bracket_constraints :
    (∀ s ∈ [Acc.S.StartLiquidation, .StartDeleverage],
      Acc.hasCons s .f_marginfi_account (.flagClear .f_marginfi_account .fl_ACCOUNT_IN_RECEIVERSHIP) = true ∧
      Acc.hasCons s .f_marginfi_account (.flagClear .f_marginfi_account .fl_ACCOUNT_IN_FLASHLOAN) = true ∧
      Acc.hasCons s .f_marginfi_account (.flagClear .f_marginfi_account .fl_ACCOUNT_DISABLED) = true ∧
      Acc.hasOneOf s .f_marginfi_account .f_liquidation_record = true) ∧
    (∀ s ∈ [Acc.S.EndLiquidation, .EndDeleverage],
      Acc.hasCons s .f_marginfi_account (.flagSet .f_marginfi_account .fl_ACCOUNT_IN_RECEIVERSHIP) = true ∧
      Acc.hasOneOf s .f_marginfi_account .f_liquidation_record = true) ∧
    Acc.hasOneOf .EndLiquidation .f_liquidation_record .f_liquidation_receiver = true ∧
    Acc.isSigner .EndLiquidation .f_liquidation_receiver = true ∧
    Acc.hasOneOf .StartDeleverage .f_group .f_risk_admin = true ∧ Acc.isSigner .StartDeleverage .f_risk_admin = true ∧
    Acc.hasOneOf .EndDeleverage .f_group .f_risk_admin = true ∧ Acc.isSigner .EndDeleverage .f_risk_admin = true := by
  decide

end tables

/-! ### non-vacuity: a well-formed bracket is accepted, and runs to completion with the flag cleared -/

def demoTx : List Ix :=
  [ { prog := COMPUTE, disc := some 30, acct0 := none, arg := 0 },
    { prog := MRGN, disc := some D_START_LIQ, acct0 := some 7, arg := 0 },
    { prog := MRGN, disc := some D_WITHDRAW, acct0 := some 7, arg := 0 },
    { prog := MRGN, disc := some D_REPAY, acct0 := some 7, arg := 0 },
    { prog := MRGN, disc := some D_END_LIQ, acct0 := some 7, arg := 0 } ]

example : validateInstructions demoTx 1 1 D_START_LIQ D_END_LIQ = .ok () := by rfl
example : Started demoTx 1 7 := ⟨_, rfl, rfl, rfl, Or.inl ⟨rfl, by rfl⟩⟩
example : (run demoTx (fun i => decide (i < 1000)) (fun _ => ⟨false, false, false, false⟩)).isOk = true := by decide

/-! ### the numbers of the property text (constants regenerated from the real crates on every run) -/

/-- "the configured maximum premium (at least 5 %)", "accounts whose assets were worth under five dollars" -/
theorem premium_and_closeout_numbers :
    (Mfi.Gen.LIQUIDATION_BONUS_FEE_MINIMUM * 20 - Mfi.Fx.ONE).natAbs < 20 ∧
    Mfi.Gen.LIQUIDATION_CLOSEOUT_DOLLAR_THRESHOLD = 5 * Mfi.Fx.ONE := by decide

/-! ### the numeric conditions at the end of the bracket (`end_liquidation` / `end_deleverage`)

`Risk.endLiquidation` / `Risk.endDeleverage` model the end handlers' verdict from the start-of-bracket snapshot in the
liquidation record and the portfolio at the end; the `health` family diffs that verdict against the REAL instructions
through real dispatch (`risk.endliq` / `risk.enddelev` lines: snapshots chosen around the current valuation). -/

section numeric
open Mfi.Risk Mfi.Fx

/-- An accepted `start_liquidation` means the account's maintenance health is NOT positive
    (weighted assets at or below weighted liabilities), and the snapshot stored for the end of the bracket is exactly
    the maintenance and equity valuation of the portfolio at that moment -/
theorem start_only_when_unhealthy {ps : List Pos} {c : PreCache} (h : startReceivership ps false = .ok c) :
    ∃ cm ce, components ps .maint = .ok cm ∧ components ps .equity = .ok ce ∧
      cm.assets - cm.liabs ≤ 0 ∧ c = { aMaint := cm.assets, lMaint := cm.liabs, aEq := ce.assets, lEq := ce.liabs } := by
  obtain ⟨cm, ce, hcm, hce, hle, e⟩ := startReceivership_ok h
  exact ⟨cm, ce, hcm, hce, hle rfl, e⟩

/-- what an accepted end of a receivership guarantees, whoever closes it -/
theorem end_receivership_spec {pre : PreCache} {ps : List Pos} {ig : Bool} {seized repaid : Int}
    (h : endReceivership pre ps ig = .ok (seized, repaid)) :
    ∃ cm ce, components ps .maint = .ok cm ∧ components ps .equity = .ok ce ∧
      pre.aMaint - pre.lMaint ≤ cm.assets - cm.liabs ∧
      (ig = false → cm.assets - cm.liabs ≤ 0) ∧
      seized = pre.aEq - ce.assets ∧ repaid = pre.lEq - ce.liabs := by
  unfold endReceivership at h
  obtain ⟨ph, hph, h⟩ := Res.bind_ok h
  obtain ⟨⟨post, a, l⟩, hpl, h⟩ := Res.bind_ok h
  obtain ⟨ce, hce, h⟩ := Res.bind_ok h
  obtain ⟨hworse, h⟩ := Res.of_ite_error h
  obtain ⟨sz, hsz, h⟩ := Res.bind_ok h
  obtain ⟨rp, hrp, h⟩ := Res.bind_ok h
  cases Res.pure_ok h
  obtain ⟨cm, hcm, _, _, rfl, hle⟩ := preLiquidation_ok hpl
  cases (subOp_ok hph).1
  exact ⟨cm, ce, hcm, hce, Int.not_lt.1 hworse, hle, (subOp_ok hsz).1, (subOp_ok hrp).1⟩

/-- An accepted `end_liquidation` means — maintenance health is no worse than in the snapshot
    taken at the start; and unless the account's ASSETS were worth under five dollars at the start: health is not
    positive, and the value seized is at most the value repaid times (1 + max(configured maximum, 5 %)). -/
theorem end_liquidation_spec {pre : PreCache} {ps : List Pos} {fee seized repaid : Int}
    (h : endLiquidation pre ps fee = .ok (seized, repaid)) :
    ∃ cm ce, components ps .maint = .ok cm ∧ components ps .equity = .ok ce ∧
      pre.aMaint - pre.lMaint ≤ cm.assets - cm.liabs ∧
      seized = pre.aEq - ce.assets ∧ repaid = pre.lEq - ce.liabs ∧
      (5 * ONE ≤ pre.aEq →
        cm.assets - cm.liabs ≤ 0 ∧ seized ≤ wrap ((repaid * maxPremium fee) / ONE)) := by
  unfold endLiquidation at h
  obtain ⟨⟨sz, rp⟩, hend, h⟩ := Res.bind_ok h
  obtain ⟨hprem, h⟩ := Res.of_ite_error h
  cases Res.pure_ok h
  obtain ⟨cm, ce, hcm, hce, hworse, hpos, hs, hr⟩ := end_receivership_spec hend
  refine ⟨cm, ce, hcm, hce, hworse, hs, hr, fun hfive => ?_⟩
  have hig : decide (pre.aEq < Mfi.Gen.LIQUIDATION_CLOSEOUT_DOLLAR_THRESHOLD) = false :=
    decide_eq_false (by rw [show Mfi.Gen.LIQUIDATION_CLOSEOUT_DOLLAR_THRESHOLD = 5 * ONE by decide]; omega)
  rw [hig] at hprem hpos
  exact ⟨hpos rfl, Decidable.by_contra fun hn => hprem (by rw [decide_eq_false hn]; rfl)⟩

/-- the premium factor is at least 1.05 whatever the fee state says, and exactly 1 + the configured maximum above that -/
theorem max_premium_floor (fee : Int) :
    ONE + Mfi.Gen.LIQUIDATION_BONUS_FEE_MINIMUM ≤ maxPremium fee ∧ ONE + fee ≤ maxPremium fee ∧
    (maxPremium fee = ONE + fee ∨ maxPremium fee = ONE + Mfi.Gen.LIQUIDATION_BONUS_FEE_MINIMUM) := by
  unfold maxPremium; omega

/-- when the product does not leave the I80F48 range (any realistic dollar value), the bound is the plain one:
    seized x 2^48 <= repaid x (1 + premium) (+ one ulp of rounding) -/
theorem premium_bound_plain {seized repaid m : Int} (hr : inRange ((repaid * m) / ONE) = true)
    (h : seized ≤ wrap ((repaid * m) / ONE)) : seized * ONE ≤ repaid * m := by
  have hw := wrap_id ((inRange_iff _).1 hr).1 ((inRange_iff _).1 hr).2
  rw [hw] at h
  have := Int.ediv_mul_le (repaid * m) (show ONE ≠ 0 by decide)
  calc seized * ONE ≤ (repaid * m / ONE) * ONE := Int.mul_le_mul_of_nonneg_right h (by decide)
    _ ≤ repaid * m := this

/-- an accepted `end_deleverage`: maintenance health is no worse than at the start -/
theorem end_deleverage_spec {pre : PreCache} {ps : List Pos} {seized repaid : Int}
    (h : endDeleverage pre ps = .ok (seized, repaid)) :
    ∃ cm, components ps .maint = .ok cm ∧ pre.aMaint - pre.lMaint ≤ cm.assets - cm.liabs := by
  obtain ⟨cm, _, hcm, _, hw, _⟩ := end_receivership_spec h
  exact ⟨cm, hcm, hw⟩

/-- the snapshot a forced deleverage takes (no health condition): the maintenance and equity valuation of that moment -/
theorem start_deleverage_snapshot {ps : List Pos} {c : PreCache} (h : startReceivership ps true = .ok c) :
    ∃ cm ce, components ps .maint = .ok cm ∧ components ps .equity = .ok ce ∧
      c = { aMaint := cm.assets, lMaint := cm.liabs, aEq := ce.assets, lEq := ce.liabs } := by
  obtain ⟨cm, ce, hcm, hce, _, e⟩ := startReceivership_ok h
  exact ⟨cm, ce, hcm, hce, e⟩

/-- (non-vacuity) a full close-out of a $10 account that repays $10 passes; the same seizure for $9 repaid is refused
    for its premium; under five dollars of assets the premium is not tested -/
example : endLiquidation ⟨5 * ONE, 10 * ONE, 10 * ONE, 10 * ONE⟩ [] 0 = .ok (10 * ONE, 10 * ONE) := by decide
example : endLiquidation ⟨5 * ONE, 10 * ONE, 10 * ONE, 9 * ONE⟩ [] 0 = .error (.err Mfi.Gen.E.LiquidationPremiumTooHigh) := by decide
example : endLiquidation ⟨2 * ONE, 10 * ONE, 4 * ONE, 1 * ONE⟩ [] 0 = .ok (4 * ONE, 1 * ONE) := by decide

end numeric

section whole_instructions
open Mfi Mfi.World Mfi.Gen Mfi.Gen.Acc

/-- While an account carries the receivership marker, a deposit or
    a borrow is refused whoever signs; a withdrawal goes through only for collateral with a non-zero initial weight and at a
    POSITIVE low-biased real-time price of the bank — and the initial-margin check is the only step that is left to the end
    of the bracket -/
theorem world_receivership_admits_only_withdraw_and_repay (c : Ctx) (hr : flag c ACCOUNT_IN_RECEIVERSHIP = true) :
    (∀ amt up, (World.deposit c amt up).isOk = false) ∧ (∀ amt, (World.borrow c amt).isOk = false) ∧
    (∀ amt all o, World.withdraw c amt all = .ok o →
        c.b.weightInitZero = false ∧ ∃ p, withdrawPrice c = .ok p ∧ 0 < p) := by
  refine ⟨?_, ?_, ?_⟩
  · intro amt up
    exact Res.isOk_false fun o h => by have := (deposit_ok h).flags.2; simp [hr] at this
  · intro amt
    exact Res.isOk_false fun o h => by have := (borrow_ok h).flags.2; simp [hr] at this
  · intro amt all o h
    have hw := withdraw_ok h
    obtain ⟨price, b, i, s, x', pre, hp, _⟩ := hw.core
    refine ⟨?_, price, hp, withdrawPrice_pos hr hp⟩
    rcases hw.checks.2.2 with h1 | h1
    · have : flag c ACCOUNT_IN_RECEIVERSHIP = false := h1
      simp [hr] at this
    · exact h1

/-! ### the receivership bracket inside whole TRANSACTIONS of the world state machine (Mfi/Model/WorldTx.lean)

The transactions are lists of whole instructions (withdraw, repay, … with the account checks, gates, accrual, books and risk
engine of `Mfi.World`), flash-loan starts / ends and liquidation starts / ends, executed atomically; the health valuations are
the risk-engine model's own. The risk admin's forced deleverage (`start_deleverage` / `end_deleverage`) is in the machine as
the second kind of bracket. -/

/-- `start_liquidation` goes through only with the account's own liquidation record, on an
    account not already in receivership (nor in a flash loan, nor disabled: regenerated table), when `start_receivership` accepts
    the portfolio as stored (the account is NOT healthy at maintenance level) and the transaction has the bracket shape; it
    records the receiver named, snapshots the valuation and sets the marker. -/
theorem world_start_liquidation_spec {c : RCtx} {shape : Res Unit} {o : StartLiqOut} (h : startLiquidation c shape = .ok o) :
    c.recordOk = true ∧ inRecv c.a = false ∧ shape = .ok () ∧
    (∃ ps, c.portfolio = .ok ps ∧ Mfi.Risk.startReceivership ps false = .ok o.cache) ∧
    o.flags = c.a.flags ||| ACCOUNT_IN_RECEIVERSHIP.toNat ∧ o.receiver = c.receiver :=
  startLiquidation_ok h

/-- the shape a start accepts, on transactions of the world machine: the start is the FIRST instruction and the only start, the
    LAST instruction is an end_liquidation, nothing but start, end, withdraw and repay appears, and the start is not last -/
theorem world_liquidation_shape {tx : List TOp} {cur : Nat} (h : liqShape tx cur = .ok ()) :
    ∃ t0 rest, tx = t0 :: rest ∧ isStartLiq t0 = true ∧ rest.any isStartLiq = false ∧
      ((tx.getLast?).map isEndLiq).getD false = true ∧ tx.all liqAllowed = true ∧ cur < tx.length - 1 :=
  liqShape_ok h

/-- `end_liquidation` goes through only with the account's own record, on an account IN
    receivership, signed by the receiver the record names, with the fee state's own wallet, at top level, when
    `Risk.endLiquidation` accepts the portfolio as it stands against the record's snapshot; it clears the marker. -/
theorem world_end_liquidation_spec {c : RCtx} {stack : Nat} {o : EndLiqOut} (h : endLiquidation c stack = .ok o) :
    c.recordOk = true ∧ inRecv c.a = true ∧ c.a.recReceiver = c.receiver ∧ c.walletOk = true ∧ stack = 1 ∧
    (∃ ps, c.portfolio = .ok ps ∧ Mfi.Risk.endLiquidation c.a.recCache ps c.feeMax = .ok (o.seized, o.repaid)) ∧
    hasFlag o.flags ACCOUNT_IN_RECEIVERSHIP = false := by
  obtain ⟨h1, h2, h3, h4, h5, h6, h7⟩ := endLiquidation_ok h
  exact ⟨h1, h2, h3, h4, h5, h6, (endLiquidation_marks h).2⟩

/-- no whole instruction and no flash-loan instruction puts an account into receivership -/
theorem world_instruction_starts_no_receivership (w : WState) (op : WOp) : NoNewP inRecv w (w.step op) := step_noNewRecv w op

/-- A COMMITTED transaction of the world machine leaves no account in receivership
    (when none was before it) -/
theorem world_tx_no_receivership_survives {w w' : WState} {tx : List TOp} (h : w.runTx tx = some w')
    (h0 : ∀ (k : Nat) (a : AcctV), w.accts[k]? = some a → inRecv a = false) :
    ∀ (k : Nat) (a : AcctV), w'.accts[k]? = some a → inRecv a = false :=
  runTx_noRecv h h0

/-- And so over every sequence of transactions, committed or rolled back: control never survives a transaction -/
theorem world_txs_no_receivership_survives (txs : List (List TOp)) (w : WState)
    (h0 : ∀ (k : Nat) (a : AcctV), w.accts[k]? = some a → inRecv a = false) :
    ∀ (k : Nat) (a : AcctV), (w.runTxs txs).accts[k]? = some a → inRecv a = false :=
  runTxs_ind (P := fun w => ∀ (k : Nat) (a : AcctV), w.accts[k]? = some a → inRecv a = false) (fun _ _ _ h => runTx_noRecv h) txs w h0

/-- A committed transaction that opens with `start_liquidation` of account `a0`
    naming receiver `r`: the account's maintenance health on the state the transaction FOUND was not positive; the transaction's
    last instruction is the `end_liquidation` of the same account, signed by `r`; and on the state the bracket LEFT — whatever the
    withdrawals and repayments in between did — the maintenance health is no worse than on the state found, and (unless the
    assets were worth under five dollars at the start) not positive, with the value seized (fall of the equity-valued assets
    between the two states) at most the value repaid (fall of the equity-valued liabilities) times 1 + max(configured, 5 %). -/
theorem world_tx_liquidation_cannot_worsen_health {w w' : WState} {tx : List TOp} (h : w.runTx tx = some w')
    (h0 : ∀ (k : Nat) (a : AcctV), w.accts[k]? = some a → inRecv a = false)
    {a0 r : Nat} {ok : Bool} (hs : tx[0]? = some (.startLiq a0 r ok)) :
    ∃ (a : AcctV) (ps0 : List Mfi.Risk.Pos) (m0 e0 : Mfi.Risk.Comps), w.accts[a0]? = some a ∧
      (w.rctx a ok r true 0).portfolio = .ok ps0 ∧
      Mfi.Risk.components ps0 .maint = .ok m0 ∧ Mfi.Risk.components ps0 .equity = .ok e0 ∧ m0.assets - m0.liabs ≤ 0 ∧
      ∃ (signer : Nat) (rok wok : Bool) (feeMax : Int), tx[tx.length - 1]? = some (.endLiq a0 signer rok wok feeMax) ∧ signer = r ∧
        ∃ (wl : WState) (al : AcctV) (psl : List Mfi.Risk.Pos) (ml el : Mfi.Risk.Comps), w.before tx (tx.length - 1) = some wl ∧ wl.accts[a0]? = some al ∧
          (wl.rctx al rok signer wok feeMax).portfolio = .ok psl ∧
          Mfi.Risk.components psl .maint = .ok ml ∧ Mfi.Risk.components psl .equity = .ok el ∧
          m0.assets - m0.liabs ≤ ml.assets - ml.liabs ∧
          (5 * Mfi.Fx.ONE ≤ e0.assets →
            ml.assets - ml.liabs ≤ 0 ∧
            e0.assets - el.assets ≤ Mfi.Fx.wrap (((e0.liabs - el.liabs) * Mfi.Risk.maxPremium feeMax) / Mfi.Fx.ONE)) := by
  obtain ⟨a, ps0, cache, ha, hps0, hcache, signer, rok, wok, feeMax, hlast, hsig, wl, al, psl, seized, repaid, hbl, hal, hpsl, hend⟩ :=
    tx_liquidation_closed h h0 hs
  obtain ⟨m0, e0, hm0, he0, hneg, ecache⟩ := start_only_when_unhealthy hcache
  obtain ⟨ml, el, hml, hel, hworse, hsz, hrp, hfive⟩ := end_liquidation_spec hend
  subst ecache
  refine ⟨a, ps0, m0, e0, ha, hps0, hm0, he0, hneg, signer, rok, wok, feeMax, hlast, hsig, wl, al, psl, ml, el, hbl, hal, hpsl, hml, hel, hworse, ?_⟩
  intro h5
  obtain ⟨p1, p2⟩ := hfive h5
  refine ⟨p1, ?_⟩
  rw [hsz, hrp] at p2
  exact p2

/-! #### the forced deleverage: the same bracket, for the risk admin alone -/

/-- `start_deleverage` goes through only signed by the GROUP'S RISK ADMIN, with the account's
    own record and group, on an account not already in receivership (nor in a flash loan, nor disabled), when the transaction has
    the deleverage bracket shape; no health condition; it records the risk admin as receiver, snapshots the valuation and sets
    both markers -/
theorem world_start_deleverage_spec {c : RCtx} {shape : Res Unit} {o : StartLiqOut} (h : startDeleverage c shape = .ok o) :
    (c.recordOk = true ∧ c.a.group = c.g.key ∧ c.g.riskAdmin = c.receiver) ∧ inRecv c.a = false ∧ shape = .ok () ∧
    (∃ ps, c.portfolio = .ok ps ∧ Mfi.Risk.startReceivership ps true = .ok o.cache) ∧
    o.flags = (c.a.flags ||| ACCOUNT_IN_DELEVERAGE.toNat) ||| ACCOUNT_IN_RECEIVERSHIP.toNat ∧ o.receiver = c.receiver :=
  startDeleverage_ok h

/-- the shape a deleverage start accepts: it is the FIRST instruction and the only such start, the LAST instruction is an
    end_deleverage, nothing but these two, withdraw and repay appears (no start / end of a liquidation either) -/
theorem world_deleverage_shape {tx : List TOp} {cur : Nat} (h : delevShape tx cur = .ok ()) :
    ∃ t0 rest, tx = t0 :: rest ∧ isStartDelev t0 = true ∧ rest.any isStartDelev = false ∧
      ((tx.getLast?).map isEndDelev).getD false = true ∧ tx.all delevAllowed = true ∧ cur < tx.length - 1 :=
  delevShape_ok h

/-- `end_deleverage` goes through only signed by the group's risk admin, who is the receiver the
    account's own record names, on an account IN receivership, at top level, when the maintenance health is no worse than the
    snapshot; it clears the receivership marker -/
theorem world_end_deleverage_spec {c : RCtx} {stack : Nat} {o : EndLiqOut} (h : endDeleverage c stack = .ok o) :
    (c.recordOk = true ∧ c.a.group = c.g.key ∧ c.g.riskAdmin = c.receiver) ∧ inRecv c.a = true ∧ c.a.recReceiver = c.receiver ∧ stack = 1 ∧
    (∃ ps, c.portfolio = .ok ps ∧ Mfi.Risk.endDeleverage c.a.recCache ps = .ok (o.seized, o.repaid)) ∧
    hasFlag o.flags ACCOUNT_IN_RECEIVERSHIP = false := by
  obtain ⟨h1, h2, h3, h4, h5, h6⟩ := endDeleverage_ok h
  exact ⟨h1, h2, h3, h4, h5, (endDeleverage_marks h).2⟩

/-- A committed transaction that opens with `start_deleverage` of account `a0`
    signed by `r`: `r` is the group's risk admin and the account belongs to this group; the transaction's last instruction is the
    `end_deleverage` of the same account, signed by `r`; and on the state the bracket LEFT — whatever the withdrawals and
    repayments in between did — the account's maintenance health is no worse than on the state the transaction found -/
theorem world_tx_deleverage_cannot_worsen_health {w w' : WState} {tx : List TOp} (h : w.runTx tx = some w')
    (h0 : ∀ (k : Nat) (a : AcctV), w.accts[k]? = some a → inRecv a = false)
    {a0 r : Nat} {ok : Bool} (hs : tx[0]? = some (.startDelev a0 r ok)) :
    ∃ (a : AcctV) (ps0 : List Mfi.Risk.Pos) (m0 : Mfi.Risk.Comps), w.accts[a0]? = some a ∧ w.g.riskAdmin = r ∧ a.group = w.g.key ∧
      (w.rctx a ok r true 0).portfolio = .ok ps0 ∧ Mfi.Risk.components ps0 .maint = .ok m0 ∧
      ∃ (signer : Nat) (rok : Bool), tx[tx.length - 1]? = some (.endDelev a0 signer rok) ∧ signer = r ∧
        ∃ (wl : WState) (al : AcctV) (psl : List Mfi.Risk.Pos) (ml : Mfi.Risk.Comps), w.before tx (tx.length - 1) = some wl ∧ wl.accts[a0]? = some al ∧
          (wl.rctx al rok signer true 0).portfolio = .ok psl ∧ Mfi.Risk.components psl .maint = .ok ml ∧
          m0.assets - m0.liabs ≤ ml.assets - ml.liabs := by
  obtain ⟨a, ps0, cache, ha, hadm, hgrp, hps0, hcache, signer, rok, hlast, hsig, wl, al, psl, seized, repaid, hbl, hal, hpsl, hend⟩ :=
    tx_deleverage_closed h h0 hs
  obtain ⟨m0, e0, hm0, _, ecache⟩ := start_deleverage_snapshot hcache
  obtain ⟨ml, hml, hworse⟩ := end_deleverage_spec hend
  subst ecache
  exact ⟨a, ps0, m0, ha, hadm, hgrp, hps0, hm0, signer, rok, hlast, hsig, wl, al, psl, ml, hbl, hal, hpsl, hml, hworse⟩

/-- From a state in which no account is in receivership and no liquidation record names a
    receiver, after ANY sequence of transactions of the world machine — committed or rolled back; brackets of both kinds, flash
    loans, user instructions, transfers — no account is in receivership and no record names a receiver: neither the marker nor
    the control it stands for survives a transaction. (Invariant: a receiver is recorded only while the account is in receivership;
    starts set both, ends clear both, nothing else touches either.) -/
theorem world_txs_control_never_survives (txs : List (List TOp)) (w : WState)
    (h0 : ∀ (k : Nat) (a : AcctV), w.accts[k]? = some a → inRecv a = false ∧ a.recReceiver = 0) :
    ∀ (k : Nat) (a : AcctV), (w.runTxs txs).accts[k]? = some a → inRecv a = false ∧ a.recReceiver = 0 := by
  refine runTxs_ind (P := fun w => ∀ (k : Nat) (a : AcctV), w.accts[k]? = some a → inRecv a = false ∧ a.recReceiver = 0) ?_ txs w h0
  intro w w1 tx hr h0 k a hk
  have hrecv := runTx_noRecv hr (fun k a hk => (h0 k a hk).1) k a hk
  have hs1 := runFrom_keeps (P := NoStray) stepIn_noStray tx 0 w w1 hr (fun k a hk => by unfold strayRecv; rw [(h0 k a hk).2]; rfl) k a hk
  unfold strayRecv at hs1
  rw [hrecv] at hs1
  exact ⟨hrecv, by simpa using hs1⟩

/-- a small world: one account without positions, no banks; 3 is the risk admin -/
def demoWorld : WState :=
  { now := 100,
    g := { key := 1, admin := 2, riskAdmin := 3, paused := false, progFeeRate := 0, window := { dailyLimit := 0, withdrawnToday := 0, lastReset := 0 } },
    accts := [{ key := 5, group := 1, authority := 7, flags := 0, slots := List.replicate 16 Account.emptySlot }],
    banks := [], dustA := fun _ => 0, dustL := fun _ => 0 }

/-- (non-vacuity) the risk admin's bracket commits; anybody else's does not; a start without its end, a deleverage closed by
    an end_liquidation, a liquidation start inside it do not; a liquidation of this (healthy: empty) account does not start -/
example : (demoWorld.runTx [.startDelev 0 3 true, .endDelev 0 3 true]).isSome = true := by decide
example : (demoWorld.runTx [.startDelev 0 2 true, .endDelev 0 2 true]).isSome = false := by decide
example : (demoWorld.runTx [.startDelev 0 3 false, .endDelev 0 3 true]).isSome = false := by decide
example : (demoWorld.runTx [.startDelev 0 3 true]).isSome = false := by decide
example : (demoWorld.runTx [.startDelev 0 3 true, .endLiq 0 3 true true 0]).isSome = false := by decide
example : (demoWorld.runTx [.startDelev 0 3 true, .startLiq 0 3 true, .endDelev 0 3 true]).isSome = false := by decide
example : (demoWorld.runTx [.startDelev 0 3 true, .ix (.tick 0), .endDelev 0 3 true]).isSome = false := by decide

end whole_instructions

end Mfi.Props.C10
