/-
  Accrual conservation: what an accrual credits to depositors and books as fees is less than what it charges the borrowers, up to
  an explicit allowance — pure integer inequalities (`accrual_core`) through every floor of
  `calc_interest_rate_accrual_state_changes`. C01 and C06 state `accrual_conserves` in full.
-/
import Mfi.Props.C18

namespace Mfi.AccrualL
open Mfi Mfi.Fx Mfi.Bank Mfi.Interest Mfi.Gen

def YEAR : Int := 31536000
theorem SPY_eq : SECONDS_PER_YEAR = YEAR * ONE := by decide

theorem accrual_core (S Y sa sl asv lsv ta tl dt L B base ur irA irL dA dL f1 f2 f3 a1 a2 a3 p1 p2 p3 : Int)
    (hS : 0 < S) (hY : 0 < Y) (hsa : 0 ≤ sa) (hsl : 0 ≤ sl) (hta : 0 < ta) (htl : 0 < tl) (hdt : 0 ≤ dt)
    (hirA : 0 ≤ irA) (hirL : 0 ≤ irL) (hbase : 0 ≤ base)
    (F1 : sa * asv ≤ (ta + 1) * S)
    (F2 : tl * S ≤ sl * lsv)
    (F3 : dA * S ≤ asv * irA)
    (F4 : lsv * irL ≤ (dL + 1) * S)
    (F5 : irA * Y ≤ L * dt)
    (F6 : B * dt < (irL + 1) * Y)
    (G1 : p1 * Y ≤ a1 * dt) (G2 : p2 * Y ≤ a2 * dt) (G3 : p3 * Y ≤ a3 * dt)
    (H1 : a1 * S ≤ tl * f1) (H2 : a2 * S ≤ tl * f2) (H3 : a3 * S ≤ tl * f3)
    (F8a : L * S ≤ base * ur) (F8b : ur * ta ≤ tl * S)
    (F9 : f1 + f2 + f3 + base ≤ B) :
    sa * dA + S * (p1 + p2 + p3) < sl * dL + irA + tl + sl := by
  -- depositors are credited at most the lending rate on (ta + 1) …
  have ha : sa * dA ≤ (ta + 1) * irA := by
    have h1 : sa * (dA * S) ≤ sa * (asv * irA) := Int.mul_le_mul_of_nonneg_left F3 hsa
    have h2 : (sa * asv) * irA ≤ ((ta + 1) * S) * irA := Int.mul_le_mul_of_nonneg_right F1 hirA
    exact le_of_mul_le_mul_right (by linarith only [h1, h2] : sa * dA * S ≤ (ta + 1) * irA * S) hS
  -- … borrowers are charged at least the borrowing rate on tl, less one ulp per debt share …
  have hb : tl * irL ≤ sl * dL + sl := by
    have h1 : (tl * S) * irL ≤ (sl * lsv) * irL := Int.mul_le_mul_of_nonneg_right F2 hirL
    have h2 : sl * (lsv * irL) ≤ sl * ((dL + 1) * S) := Int.mul_le_mul_of_nonneg_left F4 hsl
    exact le_of_mul_le_mul_right (by linarith only [h1, h2] : tl * irL * S ≤ (sl * dL + sl) * S) hS
  -- … the lending rate on ta is at most the base rate on tl …
  have hc0 : L * ta ≤ base * tl := by
    have h1 : (L * S) * ta ≤ (base * ur) * ta := Int.mul_le_mul_of_nonneg_right F8a (le_of_lt hta)
    have h2 : base * (ur * ta) ≤ base * (tl * S) := Int.mul_le_mul_of_nonneg_left F8b hbase
    exact le_of_mul_le_mul_right (by linarith only [h1, h2] : L * ta * S ≤ base * tl * S) hS
  -- … each fee is at most its rate on tl, and the rates with the base rate make up at most the borrowing rate
  have fee : ∀ p a f : Int, p * Y ≤ a * dt → a * S ≤ tl * f → S * (p * Y) ≤ dt * (tl * f) := fun p a f G H => by
    have k1 := Int.mul_le_mul_of_nonneg_left G (le_of_lt hS)
    have k2 := Int.mul_le_mul_of_nonneg_left H hdt
    linarith only [k1, k2]
  have c1 : ta * (irA * Y) ≤ ta * (L * dt) := Int.mul_le_mul_of_nonneg_left F5 (le_of_lt hta)
  have c5 : dt * (L * ta) ≤ dt * (base * tl) := Int.mul_le_mul_of_nonneg_left hc0 hdt
  have c6 : tl * dt * (f1 + f2 + f3 + base) ≤ tl * dt * B :=
    Int.mul_le_mul_of_nonneg_left F9 (Int.mul_nonneg (le_of_lt htl) hdt)
  have c7 : tl * (B * dt) < tl * ((irL + 1) * Y) := Int.mul_lt_mul_of_pos_left F6 htl
  have hc : ta * irA + S * (p1 + p2 + p3) < tl * irL + tl :=
    lt_of_mul_lt_mul_right (by linarith only [c1, fee p1 a1 f1 G1 H1, fee p2 a2 f2 G2 H2, fee p3 a3 f3 G3 H3, c5, c6, c7] :
      (ta * irA + S * (p1 + p2 + p3)) * Y < (tl * irL + tl) * Y) (le_of_lt hY)
  linarith only [ha, hb, hc]

theorem accrued_closed {apr dt v r : Int} (hapr : 0 ≤ apr) (hdt : 0 ≤ dt)
    (h : accruedPerPeriod apr dt v = some r) : r = v + v * (apr * dt / YEAR) / ONE := by
  unfold accruedPerPeriod at h
  obtain ⟨a, h1, h'⟩ := Mfi.opt_bind_some h; clear h
  obtain ⟨irp, h2, h''⟩ := Mfi.opt_bind_some h'; clear h'
  obtain ⟨f, h3, h4⟩ := Mfi.opt_bind_some h''; clear h''
  obtain rfl := mul?_ofInt h1
  rw [SPY_eq] at h2
  obtain rfl := div?_ofInt (Int.mul_nonneg hapr hdt) h2
  rw [(mul?_some h4).1, (add?_some h3).1, Int.mul_add, Int.add_comm (v * ONE),
    Int.add_mul_ediv_right _ _ (ne_of_gt ONE_pos), Int.add_comm]

theorem payment_closed {apr dt v p : Int} (hapr : 0 ≤ apr) (hdt : 0 ≤ dt) (hv : 0 ≤ v)
    (h : paymentForPeriod apr dt v = some p) : p = v * apr / ONE * dt / YEAR := by
  unfold paymentForPeriod at h
  by_cases h0 : apr = 0
  · rw [if_pos h0] at h
    rw [← Option.some.inj h, h0, Int.mul_zero, Int.zero_ediv, Int.zero_mul, Int.zero_ediv]
  · rw [if_neg h0] at h
    obtain ⟨a, h1, h'⟩ := Mfi.opt_bind_some h; clear h
    obtain ⟨c, h2, h3⟩ := Mfi.opt_bind_some h'; clear h'
    obtain rfl := (mul?_some h1).1
    obtain rfl := mul?_ofInt h2
    rw [SPY_eq] at h3
    exact div?_ofInt (Int.mul_nonneg (mulfloor_nonneg hv hapr) hdt) h3

theorem feeRate_closed {base rate fixed f : Int} (h : calcFeeRate base rate fixed = .ok f) :
    f = base * rate / ONE + fixed := by
  unfold calcFeeRate at h
  by_cases h0 : rate = 0
  · rw [if_pos h0] at h
    rw [← Res.pure_ok h, h0, Int.mul_zero, Int.zero_ediv, Int.zero_add]
  · rw [if_neg h0] at h
    obtain ⟨m, hm, h⟩ := Res.bind_ok h
    rw [(add?_some (Res.ofOpt_ok h)).1, (mul?_some (Res.ofOpt_ok hm)).1]

theorem stateChanges_ok {dt ta tl asv lsv : Int} {c : IrCalc} {ch : StateChanges}
    (h : accrualStateChanges dt ta tl c asv lsv = .ok ch) :
    ∃ ur r, div? tl ta = some ur ∧ calcInterestRate c ur = .ok r ∧
      accruedPerPeriod r.lending dt asv = some ch.newAsv ∧ accruedPerPeriod r.borrowing dt lsv = some ch.newLsv ∧
      paymentForPeriod r.insuranceFee dt tl = some ch.insuranceFees ∧ paymentForPeriod r.groupFee dt tl = some ch.groupFees ∧
      paymentForPeriod r.protocolFee dt tl = some ch.protocolFees := by
  unfold accrualStateChanges at h
  obtain ⟨ur, hur, h⟩ := Res.bind_ok h
  obtain ⟨r, hr, h⟩ := Res.bind_ok h
  obtain ⟨na, hna, h⟩ := Res.bind_ok h
  obtain ⟨nl, hnl, h⟩ := Res.bind_ok h
  obtain ⟨ins, hins, h⟩ := Res.bind_ok h
  obtain ⟨grp, hgrp, h⟩ := Res.bind_ok h
  obtain ⟨prot, hprot, h⟩ := Res.bind_ok h
  cases h
  exact ⟨ur, r, Res.ofOpt_ok hur, hr, Res.ofOpt_ok hna, Res.ofOpt_ok hnl, Res.ofOpt_ok hins, Res.ofOpt_ok hgrp, Res.ofOpt_ok hprot⟩

/-- fee configuration is not negative (InterestRateConfig::validate / the fee state) -/
def FeesOk (c : IrCalc) : Prop :=
  0 ≤ c.insRate ∧ 0 ≤ c.grpRate ∧ 0 ≤ c.progRate ∧ 0 ≤ c.insFixed ∧ 0 ≤ c.grpFixed ∧ 0 ≤ c.progFixed

theorem fees_le_spread {c : IrCalc} {ur : Int} {r : Rates} (h : calcInterestRate c ur = .ok r) (hb : 0 ≤ r.base) :
    r.groupFee + r.insuranceFee + r.protocolFee + r.base ≤ r.borrowing := by
  obtain ⟨feeIr, feeFixed, onePlus, b1, _, _, hfi, hff, hop, hb1, hbo, hg, hi, hp, _⟩ := Mfi.Props.C18.calc_spec h
  -- borrowing = base + ⌊base·feeIr⌋ + feeFixed, and the floor of the sum is at least the sum of the three floors
  have eb1 : b1 = r.base + r.base * feeIr / ONE := by
    rw [(mul?_some hb1).1, (add?_some hop).1, Int.mul_add, Int.mul_comm r.base ONE, Int.add_comm,
      Int.add_mul_ediv_left _ _ (ne_of_gt ONE_pos), Int.add_comm]
  have s1 := mulfloor_add_le (r.base * c.grpRate) (r.base * c.insRate)
  have s2 := mulfloor_add_le (r.base * c.grpRate + r.base * c.insRate) (r.base * (if c.addProgramFees then c.progRate else 0))
  have esum : r.base * feeIr =
      r.base * c.grpRate + r.base * c.insRate + r.base * (if c.addProgramFees then c.progRate else 0) := by
    rw [hfi, Int.mul_add, Int.mul_add, Int.add_comm (r.base * c.insRate)]
  rw [← esum] at s2
  rw [feeRate_closed hg, feeRate_closed hi, feeRate_closed hp, (add?_some hbo).1, eb1, hff]
  omega

/-- `accrual_core` on the closed forms: each of its hypotheses is one floor of `calc_interest_rate_accrual_state_changes` -/
theorem accrual_conserves {dt sa sl asv lsv : Int} {c : IrCalc} {ch : StateChanges}
    (hsa : 0 ≤ sa) (hsl : 0 ≤ sl) (hasv : 0 ≤ asv) (hlsv : 0 ≤ lsv) (hdt : 0 ≤ dt)
    (hta : 0 < sa * asv / ONE) (htl : 0 < sl * lsv / ONE) (hfees : FeesOk c)
    (hbase : ∀ r, calcInterestRate c (sl * lsv / ONE * ONE / (sa * asv / ONE)) = .ok r → 0 ≤ r.base)
    (h : accrualStateChanges dt (sa * asv / ONE) (sl * lsv / ONE) c asv lsv = .ok ch) :
    ∃ r, calcInterestRate c (sl * lsv / ONE * ONE / (sa * asv / ONE)) = .ok r ∧
      sa * (ch.newAsv - asv) + (ch.insuranceFees + ch.groupFees + ch.protocolFees) * ONE <
        sl * (ch.newLsv - lsv) + r.lending * dt / YEAR + sl * lsv / ONE + sl := by
  obtain ⟨ur, r, hur, hr, hna, hnl, hins, hgrp, hprot⟩ := stateChanges_ok h
  obtain rfl := div?_ediv (le_of_lt htl) hur
  obtain ⟨_, _, _, _, _, hl, _, _, _, _, _, _, _, _, l0, b0, g0, i0, p0⟩ := Mfi.Props.C18.calc_spec hr
  have hb := hbase r hr
  refine ⟨r, hr, ?_⟩
  rw [accrued_closed l0 hdt hna, accrued_closed b0 hdt hnl, payment_closed i0 hdt (le_of_lt htl) hins,
    payment_closed g0 hdt (le_of_lt htl) hgrp, payment_closed p0 hdt (le_of_lt htl) hprot,
    add_sub_cancel_left, add_sub_cancel_left]
  have hY : (0 : Int) < YEAR := by decide
  have fl : ∀ x y : Int, 0 < y → x / y * y ≤ x := fun x y hy => Int.ediv_mul_le x (ne_of_gt hy)
  have core := accrual_core ONE YEAR sa sl asv lsv (sa * asv / ONE) (sl * lsv / ONE) dt r.lending r.borrowing r.base
    (sl * lsv / ONE * ONE / (sa * asv / ONE)) (r.lending * dt / YEAR) (r.borrowing * dt / YEAR)
    (asv * (r.lending * dt / YEAR) / ONE) (lsv * (r.borrowing * dt / YEAR) / ONE) r.groupFee r.insuranceFee r.protocolFee
    (sl * lsv / ONE * r.groupFee / ONE) (sl * lsv / ONE * r.insuranceFee / ONE) (sl * lsv / ONE * r.protocolFee / ONE)
    (sl * lsv / ONE * r.groupFee / ONE * dt / YEAR) (sl * lsv / ONE * r.insuranceFee / ONE * dt / YEAR)
    (sl * lsv / ONE * r.protocolFee / ONE * dt / YEAR)
    ONE_pos hY hsa hsl hta htl hdt
    (hirA := Int.ediv_nonneg (Int.mul_nonneg l0 hdt) (le_of_lt hY)) (hirL := Int.ediv_nonneg (Int.mul_nonneg b0 hdt) (le_of_lt hY))
    (hbase := hb)
    (F1 := le_of_lt (Int.lt_ediv_add_one_mul_self _ ONE_pos)) (F2 := fl _ _ ONE_pos)
    (F3 := fl _ _ ONE_pos) (F4 := le_of_lt (Int.lt_ediv_add_one_mul_self _ ONE_pos))
    (F5 := fl _ _ hY) (F6 := Int.lt_ediv_add_one_mul_self _ hY)
    (G1 := fl _ _ hY) (G2 := fl _ _ hY) (G3 := fl _ _ hY)
    (H1 := fl _ _ ONE_pos) (H2 := fl _ _ ONE_pos) (H3 := fl _ _ ONE_pos)
    (F8a := (mul?_some hl).1 ▸ fl _ _ ONE_pos) (F8b := fl _ _ hta) (F9 := fees_le_spread hr hb)
  linarith only [core]

end Mfi.AccrualL
