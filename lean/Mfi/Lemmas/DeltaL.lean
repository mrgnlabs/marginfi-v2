/- The shares an operation moves on the bank's totals are the shares it moves on the position: the step of the single-bank ledger
   (Mfi/Props/C02.lean, which restates these under the same names) and of the whole-instruction ledger (Mfi/Lemmas/WorldLedger.lean). -/
import Mfi.Lemmas.BankL

namespace Mfi.DeltaL
open Mfi Mfi.Fx Mfi.Bank Mfi.Gen

theorem increase_delta_eq {b0 b' : Bank} {x0 x' : Balance} {now delta : Int} {t : IncType}
    (h : increaseBalance b0 x0 now delta t = .ok (b', x')) :
    b'.sa - b0.sa = x'.a - x0.a ∧ b'.sl - b0.sl = x'.l - x0.l := (increase_moved h).delta_eq

theorem decrease_delta_eq {b0 b' : Bank} {x0 x' : Balance} {now delta : Int} {t : DecType}
    (h : decreaseBalance b0 x0 now delta t = .ok (b', x')) :
    b'.sa - b0.sa = x'.a - x0.a ∧ b'.sl - b0.sl = x'.l - x0.l := (decrease_moved h).delta_eq

theorem withdraw_all_delta {b0 b' : Bank} {x0 x' : Balance} {now amt : Int}
    (h : withdrawAll b0 x0 now = .ok (b', x', amt)) :
    b'.sa = b0.sa - x0.a ∧ b'.sl = b0.sl ∧ x'.a = 0 ∧ x'.l = 0 ∧
    b'.asv = b0.asv ∧ b'.lsv = b0.lsv := by
  obtain ⟨⟨_, _, rfl⟩, rfl, _⟩ := withdrawAll_closed h
  exact ⟨rfl, rfl, rfl, rfl, rfl, rfl⟩

theorem repay_all_delta {b0 b' : Bank} {x0 x' : Balance} {now amt : Int}
    (h : repayAll b0 x0 now = .ok (b', x', amt)) :
    b'.sl = b0.sl - x0.l ∧ b'.sa = b0.sa ∧ x'.a = 0 ∧ x'.l = 0 ∧
    b'.asv = b0.asv ∧ b'.lsv = b0.lsv := by
  obtain ⟨⟨_, _, rfl⟩, rfl, _⟩ := repayAll_closed h
  exact ⟨rfl, rfl, rfl, rfl, rfl, rfl⟩

theorem close_balance_delta {b0 b' : Bank} {x0 x' : Balance} {now : Int}
    (h : closeBalanceOp b0 x0 now = .ok (b', x')) :
    b'.sa = b0.sa ∧ b'.sl = b0.sl ∧ x'.a = 0 ∧ x'.l = 0 ∧ b'.asv = b0.asv ∧ b'.lsv = b0.lsv ∧
    (∃ curA curL, assetAmount b0 x0.a = .ok curA ∧ liabAmount b0 x0.l = .ok curL ∧
      isZeroTol curA ZERO_AMOUNT_THRESHOLD = true ∧ isZeroTol curL ZERO_AMOUNT_THRESHOLD = true) := by
  obtain ⟨⟨_, rfl⟩, rfl, za, zl, ha, hl⟩ := closeBalanceOp_closed h
  exact ⟨rfl, rfl, rfl, rfl, rfl, rfl, _, _, ha, hl, za, zl⟩

end Mfi.DeltaL
