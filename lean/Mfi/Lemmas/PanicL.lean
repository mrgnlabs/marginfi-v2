/- What the pause machine of Mfi/Model/Panic.lean does, in the terms the C15 invariant needs: expiry as an inequality, and what
   each function `pause` calls returns, by cases. -/
import Mfi.Model.Panic

namespace Mfi.Panic
open Mfi.Gen

/-- a start in the future counts as not expired, so no side condition `start ≤ now` -/
theorem isExpired_iff (p : Bool) (st now : Int) : isExpired p st now = true ↔ (p = true → st + 1800 ≤ now) := by
  cases p <;> simp [isExpired, PAUSE_DURATION_SECONDS] <;> omega

theorem running_iff (p : Bool) (st now : Int) :
    (p && !isExpired p st now) = true ↔ p = true ∧ now < st + 1800 := by
  cases p <;> simp [← Bool.not_eq_true, isExpired_iff]

theorem protocolPaused_iff (c : Cache) (now : Int) :
    protocolPaused c now = true ↔ c.paused = true ∧ now < c.start + 1800 := running_iff ..

theorem uie_cases (s : PanicState) (now : Int) :
    (s.paused = true ∧ s.start + 1800 ≤ now ∧ unpauseIfExpired s now = unpause s) ∨
    (¬ (s.paused = true ∧ s.start + 1800 ≤ now) ∧ unpauseIfExpired s now = s) := by
  unfold unpauseIfExpired
  split
  next h =>
    obtain ⟨hp, he⟩ := Bool.and_eq_true_iff.mp h
    exact .inl ⟨hp, (isExpired_iff ..).mp he hp, rfl⟩
  next h => exact .inr ⟨fun ⟨hp, he⟩ => h (Bool.and_eq_true_iff.mpr ⟨hp, (isExpired_iff ..).mpr fun _ => he⟩), rfl⟩

theorem uie_idem (s : PanicState) (now : Int) :
    unpauseIfExpired (unpauseIfExpired s now) now = unpauseIfExpired s now := by
  rcases uie_cases s now with ⟨_, _, h⟩ | ⟨_, h⟩
  · rw [h]; rfl
  · rw [h]; exact h

theorem pause_some {s s' : PanicState} {now : Int} (h : pause s now = some s') :
    canPause (resetDaily (unpauseIfExpired s now) now) now = true ∧
    s' = startOrExtend (resetDaily (unpauseIfExpired s now) now) now := by
  unfold pause at h
  cases hc : canPause (resetDaily (unpauseIfExpired s now) now) now
  · simp [hc] at h
  · simpa [hc, eq_comm] using h

/-- `panic_pause` clears an expired pause twice (in the handler and again in `pause`); once is enough -/
theorem ixPause_some {s s' : PanicState} {now : Int} (h : ixPause s now = some s') :
    canPause (resetDaily (unpauseIfExpired s now) now) now = true ∧
    s' = startOrExtend (resetDaily (unpauseIfExpired s now) now) now := by
  have := pause_some h
  rwa [uie_idem] at this

theorem ixUnpause_ok_iff {s s' : PanicState} {now : Int} :
    ixUnpause s now = .ok s' ↔ s.paused = true ∧ s' = unpause s := by
  obtain ⟨p, d, c, st, lr⟩ := s
  cases p
  · simp [ixUnpause]
  · simp only [ixUnpause, unpauseIfExpired, unpause, Bool.not_true, Bool.false_eq_true, ↓reduceIte, Bool.true_and, true_and]
    split <;> simp [eq_comm]

theorem ixUnpausePermissionless_ok_iff {s s' : PanicState} {now : Int} :
    ixUnpausePermissionless s now = .ok s' ↔ s.paused = true ∧ isExpired s.paused s.start now = true ∧ s' = unpause s := by
  obtain ⟨p, d, c, st, lr⟩ := s
  cases p
  · simp [ixUnpausePermissionless]
  · by_cases he : isExpired true st now = true <;> simp [ixUnpausePermissionless, he, eq_comm]

/-- saturation cannot move the difference across 86400, so the reset is due iff 24 h have passed, in range or not -/
theorem resetDaily_cases (s : PanicState) (now : Int) :
    (now - s.lastReset < 86400 ∧ resetDaily s now = s) ∨
    (86400 ≤ now - s.lastReset ∧ resetDaily s now = { s with daily := 0, lastReset := now }) := by
  have hs : satI64 (now - s.lastReset) ≥ DAILY_RESET_INTERVAL ↔ 86400 ≤ now - s.lastReset := by
    unfold satI64 I64MAX I64MIN DAILY_RESET_INTERVAL
    split
    · omega
    · split <;> omega
  simp only [resetDaily, hs]
  by_cases h : 86400 ≤ now - s.lastReset
  · exact .inr ⟨h, by simp [h]⟩
  · exact .inl ⟨by omega, by simp [h]⟩

theorem canPause_iff (s : PanicState) (now : Int) :
    canPause s now = true ↔ s.consecutive < 2 ∧ (if now - s.lastReset ≥ 86400 then 0 else s.daily) < 3 := by
  simp only [canPause, Bool.and_eq_true, decide_eq_true_eq]
  exact Iff.rfl

/-- right after the reset, the counter `can_pause` recomputes is the stored one -/
theorem canPause_reset (s : PanicState) (now : Int) :
    canPause (resetDaily s now) now = true ↔ (resetDaily s now).consecutive < 2 ∧ (resetDaily s now).daily < 3 := by
  rw [canPause_iff]
  rcases resetDaily_cases s now with ⟨h, e⟩ | ⟨h, e⟩
  · rw [e, if_neg (by omega)]
  · rw [e, if_neg (by simp only; omega)]

end Mfi.Panic
