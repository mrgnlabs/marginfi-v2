/- Characterising lemmas of the position-array functions of Mfi/Model/Account.lean (`find`, `find_or_create`, `sort_balances`). -/
import Mfi.Model.Account

namespace Mfi.Account
open Mfi Mfi.Gen

theorem findIdx_some {s : List Slot} {bank i : Nat} (h : findIdx s bank = some i) :
    ∃ x, s[i]? = some x ∧ x.active = true ∧ x.bank = bank := by
  unfold findIdx at h
  rw [List.findIdx?_eq_some_iff_getElem] at h
  obtain ⟨hi, hp, _⟩ := h
  simp only [Bool.and_eq_true, beq_iff_eq] at hp
  exact ⟨s[i], List.getElem?_eq_getElem hi, hp.1, hp.2⟩

theorem findIdx_at {s : List Slot} {bank i : Nat} {x : Slot} (h : findIdx s bank = some i) (hx : s[i]? = some x) :
    x.active = true ∧ x.bank = bank := by
  obtain ⟨y, hy, hy'⟩ := findIdx_some h
  rw [hx] at hy; cases hy; exact hy'

theorem findIdx_none {s : List Slot} {bank : Nat} (h : findIdx s bank = none) :
    ∀ x ∈ s, x.active = true → x.bank ≠ bank := by
  intro x hx ha hb
  unfold findIdx at h
  rw [List.findIdx?_eq_none_iff] at h
  have := h x hx
  simp [ha, hb] at this

theorem firstEmpty_some {s : List Slot} {i : Nat} (h : firstEmpty s = some i) :
    ∃ x, s[i]? = some x ∧ x.active = false := by
  unfold firstEmpty at h
  rw [List.findIdx?_eq_some_iff_getElem] at h
  obtain ⟨hi, hp, _⟩ := h
  exact ⟨s[i], List.getElem?_eq_getElem hi, by simpa using hp⟩

theorem findOrCreate_ok {s s' : List Slot} {bank : Nat} {tag now : Int} {i : Nat}
    (h : findOrCreate s bank tag now = .ok (s', i)) :
    (findIdx s bank = some i ∧ s' = s) ∨
    (findIdx s bank = none ∧ (∃ e, s[i]? = some e ∧ e.active = false) ∧
      s' = s.set i { active := true, bank, tag, a := 0, l := 0, emis := 0, lastUpdate := now }) := by
  unfold findOrCreate at h
  revert h
  cases hf : findIdx s bank with
  | some k => intro h; cases h; exact .inl ⟨rfl, rfl⟩
  | none =>
    dsimp only
    split
    · intro h; cases h
    · cases he : firstEmpty s with
      | none => intro h; cases h
      | some k => intro h; cases h; exact .inr ⟨rfl, firstEmpty_some he, rfl⟩

theorem findOrCreate_slot {s s' : List Slot} {bank : Nat} {tag now : Int} {i : Nat} {x : Slot}
    (h : findOrCreate s bank tag now = .ok (s', i)) (hx : s'[i]? = some x) : x.active = true ∧ x.bank = bank := by
  rcases findOrCreate_ok h with ⟨hf, rfl⟩ | ⟨_, ⟨e, hie, _⟩, rfl⟩
  · exact findIdx_at hf hx
  · rw [List.getElem?_set_self (List.getElem?_eq_some_iff.mp hie).1] at hx
    cases hx; exact ⟨rfl, rfl⟩

theorem le_trans' : ∀ (a b c : Slot), decide (a.bank ≥ b.bank) = true → decide (b.bank ≥ c.bank) = true →
    decide (a.bank ≥ c.bank) = true := by
  intro a b c h1 h2; simp only [decide_eq_true_eq] at *; omega

theorem le_total' : ∀ (a b : Slot), (decide (a.bank ≥ b.bank) || decide (b.bank ≥ a.bank)) = true := by
  intro a b; simp only [Bool.or_eq_true, decide_eq_true_eq]; omega

theorem sort_perm (s : List Slot) : (sortBalances s).Perm s := List.mergeSort_perm s _

theorem sort_pairwise (s : List Slot) : (sortBalances s).Pairwise (fun x y => x.bank ≥ y.bank) :=
  (List.pairwise_mergeSort le_trans' le_total' s).imp (by intro a b h; simpa using h)

end Mfi.Account
