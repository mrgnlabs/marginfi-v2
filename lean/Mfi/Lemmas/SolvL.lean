/-
  Solvency step lemmas: what each bank operation does to  claims = deposits − loans + uncollected fees  (scale 2^96 per
  token), with the rounding allowance DERIVED from the magnitudes involved. Used by the single-bank history of
  Mfi/Props/C01.lean (which restates the `*_step` theorems under the same names) and by the world-level solvency proof
  (Mfi/Lemmas/WorldSolv.lean).
-/
import Mfi.Props.C06
import Mfi.Props.C19
import Mfi.Props.C07

namespace Mfi.SolvL
open Mfi Mfi.Fx Mfi.Bank Mfi.Interest Mfi.Gen Mfi.AccrualL

/-- what the bank owes net of what it is owed, plus uncollected fees, at scale 2^96 per token -/
def claims (b : Bank) : Int := b.sa * b.asv - b.sl * b.lsv + (b.feeI + b.feeG + b.feeP) * ONE

/-- vault tokens minus claims (scale 2^96): the property says this stays ≥ −(sum of allowances) -/
def slack (v : Int) (b : Bank) : Int := v * ONE * ONE - claims b

theorem slack_add {v dv a : Int} {b b' : Bank} (h : claims b' ≤ claims b + dv * ONE * ONE + a) :
    slack v b ≤ slack (v + dv) b' + a := by
  unfold slack; rw [Int.add_mul, Int.add_mul]; omega

theorem slack_sub {v dv a : Int} {b b' : Bank} (h : claims b' + dv * ONE * ONE ≤ claims b + a) :
    slack v b ≤ slack (v - dv) b' + a := by
  unfold slack; rw [Int.sub_mul, Int.sub_mul]; omega

/-- the per-period lending rate of an accrual (0 when nothing accrues) -/
def lendingPerPeriod (b : Bank) (ir : IrCalc) (now : Int) : Int :=
  match calcInterestRate ir (b.sl * b.lsv / ONE * ONE / (b.sa * b.asv / ONE)) with
  | .ok r => r.lending * (now - b.lastUpdate) / YEAR
  | .error _ => 0

/-- rounding allowance of one accrual, derived from the magnitudes involved -/
def accrueAllowance (b : Bank) (ir : IrCalc) (now : Int) : Int :=
  b.sl * b.lsv / ONE + b.sl + lendingPerPeriod b ir now

/-- the curve gives a non-negative base rate (true of every validated configuration: C18) -/
def BaseOk (ir : IrCalc) : Prop := ∀ ur r, calcInterestRate ir ur = .ok r → 0 ≤ r.base

theorem accrueAllowance_nonneg {b : Bank} (ir : IrCalc) {now : Int} (hsl : 0 ≤ b.sl) (hlsv : 0 ≤ b.lsv)
    (hdt : b.lastUpdate ≤ now) : 0 ≤ accrueAllowance b ir now := by
  have t1 := mulfloor_nonneg hsl hlsv
  have t2 : 0 ≤ lendingPerPeriod b ir now := by
    unfold lendingPerPeriod
    cases hc : calcInterestRate ir (b.sl * b.lsv / ONE * ONE / (b.sa * b.asv / ONE)) with
    | error e => exact Int.le_refl 0
    | ok r =>
      obtain ⟨_, _, _, _, _, _, _, _, _, _, _, _, _, _, l0, _⟩ := Mfi.Props.C18.calc_spec hc
      exact Int.ediv_nonneg (Int.mul_nonneg l0 (Int.sub_nonneg.2 hdt)) (by decide)
  unfold accrueAllowance; omega

/-- `accrue_cases`: nothing moves, or only the clock, or the state changes of `accrual_conserves` are booked -/
theorem accrue_step {b b' : Bank} {ir : IrCalc} {now : Int} (h : accrueInterest b ir now = .ok b')
    (hb : Mfi.Props.C06.BankOk b) (hfees : FeesOk ir) (hbase : BaseOk ir) :
    claims b' ≤ claims b + accrueAllowance b ir now := by
  obtain ⟨hasv, hlsv, hsa, hsl⟩ := hb
  rcases accrue_cases h with ⟨e, rfl⟩ | ⟨hlt, ta, tl, hta, htl, ⟨_, rfl⟩ | ⟨hta0, htl0, ch, acc, hch, hf⟩⟩
  · exact Int.le_add_of_nonneg_right (accrueAllowance_nonneg ir hsl hlsv (Int.le_of_eq e.symm))
  · exact Int.le_add_of_nonneg_right (accrueAllowance_nonneg ir hsl hlsv (Int.le_of_lt hlt))
  · have htapos : 0 < ta := by have := mul?_nonneg hsa hasv (math_ok hta); omega
    have htlpos : 0 < tl := by have := mul?_nonneg hsl hlsv (math_ok htl); omega
    obtain rfl := (mul?_some (math_ok hta)).1
    obtain rfl := (mul?_some (math_ok htl)).1
    have hdt0 : 0 ≤ now - b.lastUpdate := by omega
    obtain ⟨r, hr, hcons⟩ := accrual_conserves hsa hsl hasv hlsv hdt0 htapos htlpos hfees (fun r hr => hbase _ r hr) hch
    obtain ⟨_, _, f1, f2, f3, _⟩ := Mfi.Props.C06.state_changes_spec hch hdt0 (le_of_lt htlpos) hasv hlsv
    rw [Mfi.Props.C06.applyFees_spec hf f1 f2 f3]
    unfold claims accrueAllowance lendingPerPeriod
    rw [hr]
    simp only [Int.add_mul, Int.mul_sub] at hcons ⊢
    omega

theorem shares_le {v sv s : Int} (hv : 0 ≤ v) (hsv : 0 < sv) (h : div? v sv = some s) :
    0 ≤ s ∧ s * sv ≤ v * ONE ∧ v * ONE < s * sv + sv :=
  div?_floor hv hsv h

/-- the same `da·asv − dl·lsv` the position's net value gains (`Moved.net`) -/
theorem _root_.Mfi.Bank.Moved.claims {b0 b' : Bank} {x0 x' : Balance} {da dl : Int} (m : Moved b0 x0 da dl b' x') :
    claims b' = claims b0 + (da * b0.asv - dl * b0.lsv) := by
  unfold SolvL.claims
  rw [m.sa, m.sl, m.asv, m.lsv, m.feeI, m.feeG, m.feeP, Int.add_mul, Int.add_mul]; omega

/-- the claims move by the value booked (`Moved.claims`), which `booked_le` bounds by `delta` -/
theorem increase_step {b b' : Bank} {x x' : Balance} {now delta : Int} {t : IncType}
    (h : increaseBalance b x now delta t = .ok (b', x')) (hasv : 0 ≤ b.asv) (hlsv : 0 ≤ b.lsv)
    (hd : 0 ≤ delta) (hl : 0 ≤ x.l) : claims b' ≤ claims b + delta * ONE := by
  have hb := booked_le hd (mulfloor_nonneg hl hlsv) hasv hlsv
  rw [(increase_moved h).claims, Int.neg_mul]; omega

/-- the claims fall by the value booked, which `lt_booked` bounds from below; the `+ 1` is needed only at deposit share value 0 -/
theorem decrease_step {b b' : Bank} {x x' : Balance} {now delta : Int} {t : DecType}
    (h : decreaseBalance b x now delta t = .ok (b', x')) (hasv : 0 ≤ b.asv) (hlsv : 0 ≤ b.lsv)
    (hd : 0 ≤ delta) (ha : 0 ≤ x.a) : claims b' < claims b - delta * ONE + b.asv + b.lsv + 1 := by
  have hlsv' : 0 < b.lsv := by have := decrease_lsv_ne h; omega
  have hc := mulfloor_nonneg ha hasv
  rw [(decrease_moved h).claims, Int.neg_mul]
  rcases Int.lt_or_eq_of_le hasv with h0 | h0
  · have hb := lt_booked hd hc hlsv' h0
    omega
  · -- a wiped-out bank: the position's deposit is worth nothing, everything is booked on the debt side
    have hb := lt_sharesOf_mul (v := max (delta - x.a * b.asv / ONE) 0) (Int.le_max_right _ _) hlsv'
    simp only [← h0, Int.mul_zero, Int.zero_ediv] at hb ⊢
    rw [show max (delta - 0) 0 = delta by omega] at hb ⊢
    omega

theorem withdraw_all_step {b b' : Bank} {x x' : Balance} {now amt : Int}
    (h : withdrawAll b x now = .ok (b', x', amt)) (hasv : 0 ≤ b.asv) (ha : 0 ≤ x.a) :
    claims b' ≤ claims b - amt * ONE * ONE := by
  obtain ⟨⟨_, _, rfl⟩, _⟩ := withdrawAll_closed h
  have h1 := mulfloor_le (x.a * b.asv)
  unfold claims
  simp only [Int.add_mul, Int.sub_mul, Int.neg_mul]
  omega

theorem repay_all_step {b b' : Bank} {x x' : Balance} {now amt : Int}
    (h : repayAll b x now = .ok (b', x', amt)) :
    claims b' < claims b + amt * ONE * ONE + ONE := by
  obtain ⟨⟨_, _, rfl⟩, _⟩ := repayAll_closed h
  have h1 := mulfloor_gt (x.l * b.lsv)
  unfold claims
  simp only [Int.add_mul, Int.sub_mul, Int.neg_mul]
  omega

/-- a closure writes nothing on the bank that the claims read -/
theorem close_step {b b' : Bank} {x x' : Balance} {now : Int} (h : closeBalanceOp b x now = .ok (b', x')) :
    claims b' = claims b := by
  obtain ⟨⟨_, rfl⟩, _⟩ := closeBalanceOp_closed h
  rfl

/-- a fee collection takes off the buckets exactly the whole tokens it sends out of the vault -/
theorem collect_claims {b : Bank} {v : Int} {c : Collected} (h : collectFees b.feeI b.feeG b.feeP v = .ok c) :
    claims { b with feeI := c.feeI, feeG := c.feeG, feeP := c.feeP } =
      claims b + -(c.toInsurance + c.toGroup + c.toProgram) * ONE * ONE := by
  obtain ⟨_, _, _, e4, e5, e6, _⟩ := Mfi.Props.C19.collect_exact h
  unfold claims
  simp only [e4, e5, e6, Int.add_mul, Int.sub_mul, Int.neg_mul]
  omega

theorem collect_step {b : Bank} {v : Int} {c : Collected} (h : collectFees b.feeI b.feeG b.feeP v = .ok c) :
    slack (v - (c.toInsurance + c.toGroup + c.toProgram)) { b with feeI := c.feeI, feeG := c.feeG, feeP := c.feeP } = slack v b := by
  unfold slack
  rw [collect_claims h, Int.sub_mul, Int.sub_mul, Int.neg_mul, Int.neg_mul]
  omega

theorem bankruptcy_step {b : Bank} {bal : Balance} {avail now : Int} {o : BankruptcyOut}
    (h : settleBankruptcy b bal avail now = .ok o) (ha : 0 ≤ avail) (hsa : 0 ≤ b.sa) (hasv : 0 ≤ b.asv)
    (hlsv : 0 ≤ b.lsv) (hl : 0 ≤ bal.l) (hnk : o.kill = false) :
    claims o.bank ≤ claims b + o.coveredUp * ONE * ONE := by
  obtain ⟨-, hbad, -, esoc, hsoc0, -, hup, -, -, b1, hs, hi⟩ := Mfi.Props.C07.settle_spec h ha
  obtain ⟨eb1, ⟨-, -, hk⟩ | ⟨-, -, h0, -, -, hle, -⟩⟩ := Mfi.Props.C07.socialize_spec hs hsoc0 hsa hasv
  · rw [hnk] at hk; cases hk
  · -- the socialisation takes `socialized` off the deposits (rounding down), the repay adds at most the whole bad debt:
    -- together at most `covered = badDebt − socialized`, which the insurance pays rounded up
    have hc1 : claims b1 = b.sa * b1.asv - b.sl * b.lsv + (b.feeI + b.feeG + b.feeP) * ONE := by rw [eb1]; rfl
    have hstep := increase_step hi h0 (by rw [eb1]; exact hlsv) (Int.le_of_lt (Int.lt_trans (by decide) hbad)) hl
    have tl := mulfloor_le (b.sa * b.asv)
    have e3 : o.covered * ONE ≤ o.coveredUp * ONE * ONE := Int.mul_le_mul_of_nonneg_right hup (le_of_lt ONE_pos)
    rw [esoc, Int.sub_mul, Int.sub_mul] at hle
    rw [hc1] at hstep
    unfold claims at hstep ⊢; omega

/-- `c0`, `c1`, `c2`: the claims of the debt bank before, after the liquidator's debit `l1` and after the liquidatee's credit
    `l2`; the fee `l1 − l2` leaves the vault as `whole` tokens, its fraction `fracp` is booked to the insurance fees -/
theorem liquidation_fee_step {c0 c1 c2 l1 l2 asv lsv whole fracp : Int}
    (hdec : c1 < c0 - l1 * ONE + asv + lsv + 1) (hinc : c2 ≤ c1 + l2 * ONE) (hfee : l1 - l2 = whole * ONE + fracp) :
    -(whole * ONE * ONE) - (c2 + fracp * ONE - c0) > -(asv + lsv + 1) := by
  have e : (l1 - l2) * ONE = (whole * ONE + fracp) * ONE := by rw [hfee]
  have e1 : (l1 - l2) * ONE = l1 * ONE - l2 * ONE := Int.sub_mul _ _ _
  have e2 : (whole * ONE + fracp) * ONE = whole * ONE * ONE + fracp * ONE := Int.add_mul _ _ _
  omega

/-- `c0`, `c1`: the claims before and after the debit of `amt` tokens plus `fee`, which the fee buckets then gain -/
theorem borrow_fee_step {c0 c1 amt fee asv lsv : Int}
    (hdec : c1 < c0 - (amt * ONE + fee) * ONE + asv + lsv + 1) :
    -(amt * ONE * ONE) - (c1 + fee * ONE - c0) > -(asv + lsv + 1) := by
  have e : (amt * ONE + fee) * ONE = amt * ONE * ONE + fee * ONE := Int.add_mul _ _ _
  omega

end Mfi.SolvL
