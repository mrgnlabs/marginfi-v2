/-
  Solvency over every history of whole instructions of the world state machine (`World.WState.step`). Next to the state run three
  ghost ledgers per bank key: the liquidity vault's token balance (moved by exactly the tokens the instruction model says enter or
  leave it), the rounding allowance consumed, and the sanctioned write-offs (token-less repayments of a sunset bank, the bad debt of
  a settlement that wipes the bank out). For every bank, along every history,

      vault·2^96 − (deposits − loans + uncollected fees) + allowance consumed + sanctioned write-offs

  never decreases (`stepE_sound`, `runE_sound`), together with the invariant `SInv` that makes the per-instruction bounds of
  WorldSolv applicable again.
-/
import Mfi.Lemmas.WorldSolv

namespace Mfi.World
open Mfi Mfi.Fx Mfi.Bank Mfi.Account Mfi.Gen Mfi.SolvL

/-- one effect of an instruction on the ghost ledgers of the bank with key `key` -/
structure Eff where
  key : Nat
  inflow : Int      -- whole tokens entering the liquidity vault (negative: leaving it)
  allow : Int       -- rounding allowance consumed (2^-96 token)
  writeoff : Int    -- sanctioned write-off (2^-96 token)

structure Ghost where
  vault : Nat → Int
  spent : Nat → Int
  written : Nat → Int

def Ghost.add (g : Ghost) (e : Eff) : Ghost :=
  { vault := bump g.vault e.key e.inflow, spent := bump g.spent e.key e.allow, written := bump g.written e.key e.writeoff }

def Ghost.apply (g : Ghost) (es : List Eff) : Ghost := es.foldl Ghost.add g

/-- the step of the state machine together with its effects on the ghost ledgers: the state component IS `WState.step`
    (`stepE_fst`); the effects are read off the outcome of the very instruction that is committed -/
def WState.stepE (w : WState) (op : WOp) : WState × List Eff :=
  let go (ai bi signer : Nat) (vaultAmount : Int) (run : Ctx → Res Out) (dust : Account.Slot → Int × Int)
      (eff : Ctx → AcctV → WBank → Out → Eff) : WState × List Eff :=
    match w.accts[ai]?, w.banks[bi]? with
    | some a, some b =>
      match run (w.ctx a b signer b.v.liquidityVault vaultAmount) with
      | .ok o => let d := dust (slotOf a b.v.key)
        (w.commit ai bi a b o.slots a.flags o.books b.v.opState o.window d.1 d.2, [eff (w.ctx a b signer b.v.liquidityVault vaultAmount) a b o])
      | .error _ => (w, [])
    | _, _ => (w, [])
  let acc (b : WBank) : Int := accrueAllowance b.v.books b.v.ir w.now
  match op with
  | .deposit ai bi signer amount upTo => go ai bi signer 0 (fun c => deposit c amount upTo) (fun _ => (0, 0))
      (fun c _ b o => ⟨b.v.key, received c.ixEnv o.tokens, acc b, 0⟩)
  | .withdraw ai bi signer amount all vault => go ai bi signer vault (fun c => withdraw c amount all) (fun s => (0, if all then s.l else 0))
      (fun _ _ b o => ⟨b.v.key, -o.tokens, acc b + (o.books.asv + o.books.lsv + 1), 0⟩)
  | .borrow ai bi signer amount => go ai bi signer 0 (fun c => borrow c amount) (fun _ => (0, 0))
      (fun _ _ b o => ⟨b.v.key, -o.tokens, acc b + (o.books.asv + o.books.lsv + 1), 0⟩)
  | .repay ai bi signer amount all => go ai bi signer 0 (fun c => repay c amount all) (fun s => (if all then s.a else 0, 0))
      (fun c a b o => ⟨b.v.key, received c.ixEnv o.tokens, acc b + (if all then ONE else 0),
        if tokenless c all then (slotOf a b.v.key).l * o.books.lsv + ONE * ONE else 0⟩)
  | .close ai bi signer => go ai bi signer 0 (fun c => closeBalance c) (fun s => (s.a, s.l))
      (fun _ _ b _ => ⟨b.v.key, 0, acc b, 0⟩)
  | .bankruptcy ai bi signer available =>
    match w.accts[ai]?, w.banks[bi]? with
    | some a, some b =>
      match bankruptcy (w.ctx a b signer b.v.liquidityVault 0) available with
      | .ok o => (w.commit ai bi a b o.slots o.flags o.books o.opState w.g.window 0 0,
          [⟨b.v.key, o.insuranceTokens, acc b, if o.opState = 3 then (slotOf a b.v.key).l * o.books.lsv else 0⟩])
      | .error _ => (w, [])
    | _, _ => (w, [])
  | .liquidate qi ei abi lbi signer amount =>
    if qi = ei ∨ abi = lbi then (w, []) else
    match w.accts[qi]?, w.accts[ei]?, w.banks[abi]?, w.banks[lbi]? with
    | some lq, some le, some ab, some lb =>
      match liquidate (w.liqCtx lq le ab lb signer) amount with
      | .ok o => (w.commit2 qi ei abi lbi lq le ab lb o,
          [⟨ab.v.key, 0, acc ab + (o.assetBooks.asv + o.assetBooks.lsv + 1), 0⟩,
           ⟨lb.v.key, -o.insuranceTokens, acc lb + (o.liabBooks.asv + o.liabBooks.lsv + 1), 0⟩])
      | .error _ => (w, [])
    | _, _, _, _ => (w, [])
  | .transfer ai signer newKey newAuth feeWalletOk => (w.step (.transfer ai signer newKey newAuth feeWalletOk), [])
  | .accrue bi =>
    match w.banks[bi]? with
    | some b =>
      match accrueIx (w.bctx b 0) with
      | .ok books => (w.commitB bi b books, [⟨b.v.key, 0, acc b, 0⟩])
      | .error _ => (w, [])
    | none => (w, [])
  | .collect bi feeAtaOk vault =>
    match w.banks[bi]? with
    | some b =>
      match collectFeesIx (w.bctx b vault) feeAtaOk with
      | .ok o => (w.commitB bi b o.books, [⟨b.v.key, -(o.toInsurance + o.toGroup + o.toProgram), 0, 0⟩])
      | .error _ => (w, [])
    | none => (w, [])
  | .tick dt => ({ w with now := w.now + dt }, [])

theorem stepE_step? (w : WState) (op : WOp) :
    (w.step? op = none ∧ w.stepE op = (w, [])) ∨ (∃ w', w.step? op = some w' ∧ (w.stepE op).1 = w') := by
  -- both machines branch on the same scrutinees: look each one up once, then the two sides agree by computation
  -- (splitting the two sides independently pairs every branch of one with every branch of the other)
  cases op <;> dsimp only [WState.stepE, WState.step?]
  case deposit ai bi _ _ _ | withdraw ai bi _ _ _ _ | borrow ai bi _ _ | repay ai bi _ _ _ | close ai bi _ | bankruptcy ai bi _ _ =>
    cases w.accts[ai]? <;> cases w.banks[bi]? <;> try exact Or.inl ⟨rfl, rfl⟩
    dsimp only; split <;> rename_i h <;> rw [h]
    · exact Or.inr ⟨_, rfl, rfl⟩
    · exact Or.inl ⟨rfl, rfl⟩
  case liquidate qi ei abi lbi _ _ =>
    by_cases hc : qi = ei ∨ abi = lbi
    · rw [if_pos hc, if_pos hc]; exact Or.inl ⟨rfl, rfl⟩
    · rw [if_neg hc, if_neg hc]
      cases w.accts[qi]? <;> cases w.accts[ei]? <;> cases w.banks[abi]? <;> cases w.banks[lbi]? <;> try exact Or.inl ⟨rfl, rfl⟩
      dsimp only; split <;> rename_i h <;> rw [h]
      · exact Or.inr ⟨_, rfl, rfl⟩
      · exact Or.inl ⟨rfl, rfl⟩
  case transfer ai signer newKey newAuth ok =>
    rcases step_cases w (.transfer ai signer newKey newAuth ok) with ⟨h0, h1⟩ | ⟨w', h0, h1, _⟩
    · exact Or.inl ⟨h0, by rw [h1]⟩
    · exact Or.inr ⟨w', h0, h1⟩
  case accrue bi | collect bi _ _ =>
    cases w.banks[bi]? <;> try exact Or.inl ⟨rfl, rfl⟩
    dsimp only; split <;> rename_i h <;> rw [h]
    · exact Or.inr ⟨_, rfl, rfl⟩
    · exact Or.inl ⟨rfl, rfl⟩
  case tick dt => exact Or.inr ⟨_, rfl, rfl⟩

theorem stepE_fst (w : WState) (op : WOp) : (w.stepE op).1 = w.step op := by
  rw [step_getD]
  rcases stepE_step? w op with ⟨h1, h2⟩ | ⟨w', h1, h2⟩ <;> rw [h1, h2] <;> rfl

theorem stepE_refused {w : WState} {op : WOp} (h : w.step? op = none) : w.stepE op = (w, []) := by
  rcases stepE_step? w op with ⟨_, h2⟩ | ⟨w', h1, _⟩
  · exact h2
  · rw [h] at h1; cases h1

/-- instruction arguments are unsigned in the program -/
def WOp.Ok : WOp → Prop
  | .deposit _ _ _ amount _ => 0 ≤ amount
  | .withdraw _ _ _ amount _ _ => 0 ≤ amount
  | .borrow _ _ _ amount => 0 ≤ amount
  | .repay _ _ _ amount _ => 0 ≤ amount
  | .bankruptcy _ _ _ available => 0 ≤ available
  | _ => True

structure SInv (w : WState) : Prop where
  led : WInv w
  slots : ∀ (i : Nat) (a : AcctV), w.accts[i]? = some a → AllNN a.slots
  dust : ∀ k, 0 ≤ w.dustA k ∧ 0 ≤ w.dustL k
  banks : ∀ (j : Nat) (b : WBank), w.banks[j]? = some b → SvFee b.v.books ∧ CfgOk b.v w.g.progFeeRate ∧ (b.v.opState ≠ 3 → 0 < b.v.books.asv)

theorem posA_nonneg {k : Nat} {l : List Slot} (h : AllNN l) : 0 ≤ posA k l :=
  List.sum_nonneg fun y hy => by obtain ⟨s, hs, rfl⟩ := List.mem_map.mp hy; exact (h s (List.mem_filter.mp hs).1).1

theorem posL_nonneg {k : Nat} {l : List Slot} (h : AllNN l) : 0 ≤ posL k l :=
  List.sum_nonneg fun y hy => by obtain ⟨s, hs, rfl⟩ := List.mem_map.mp hy; exact (h s (List.mem_filter.mp hs).1).2

theorem totals_nonneg {w : WState} (hi : SInv w) {j : Nat} {b : WBank} (hb : w.banks[j]? = some b) :
    0 ≤ b.v.books.sa ∧ 0 ≤ b.v.books.sl := by
  have hA := hi.led.ledgerA j b hb
  have hL := hi.led.ledgerL j b hb
  have sA : 0 ≤ (w.accts.map fun a => posA b.v.key a.slots).sum := List.sum_nonneg fun y hy => by
    obtain ⟨a, ha, rfl⟩ := List.mem_map.mp hy
    exact (List.getElem?_of_mem ha).elim fun i hi' => posA_nonneg (hi.slots i a hi')
  have sL : 0 ≤ (w.accts.map fun a => posL b.v.key a.slots).sum := List.sum_nonneg fun y hy => by
    obtain ⟨a, ha, rfl⟩ := List.mem_map.mp hy
    exact (List.getElem?_of_mem ha).elim fun i hi' => posL_nonneg (hi.slots i a hi')
  have := hi.dust b.v.key
  omega

theorem pre_of_inv {w : WState} (hi : SInv w) {ai bi : Nat} {a : AcctV} {b : WBank} (ha : w.accts[ai]? = some a)
    (hb : w.banks[bi]? = some b) (signer vault : Nat) (va : Int) : Pre (w.ctx a b signer vault va) := by
  obtain ⟨hsv, hcfg, hlive⟩ := hi.banks bi b hb
  obtain ⟨h1, h2⟩ := totals_nonneg hi hb
  exact ⟨hsv, h1, h2, hcfg, hi.slots ai a ha, hlive⟩

theorem slotOf_nn {a : AcctV} (h : AllNN a.slots) (k : Nat) : 0 ≤ (slotOf a k).a ∧ 0 ≤ (slotOf a k).l := by
  unfold slotOf
  split
  · rename_i i _
    cases hs : a.slots[i]? with
    | none => exact ⟨Int.le_refl _, Int.le_refl _⟩
    | some s => exact AllNN_get h hs
  · exact ⟨Int.le_refl _, Int.le_refl _⟩

theorem bump_nonneg {f : Nat → Int} {k : Nat} {d : Int} (hf : ∀ j, 0 ≤ f j) (hd : 0 ≤ d) : ∀ j, 0 ≤ bump f k d j := by
  intro j; unfold bump; split
  · exact Int.add_nonneg (hf j) hd
  · exact hf j

/-- the configuration reads neither the books nor the operational state -/
theorem CfgOk.books {v : BankV} {r : Int} (h : CfgOk v r) (books : Bank) (opState : Int) : CfgOk { v with books, opState } r :=
  ⟨h.fees, h.base, h.tf, h.orig, h.prog⟩

theorem commit_sinv {w : WState} {ai bi : Nat} {a : AcctV} {b : WBank} {slots : List Slot} {flags : Nat} {books : Bank} {opState : Int}
    {window : Admin.Window} {dA dL : Int}
    (hi : SInv w) (ha : w.accts[ai]? = some a) (hb : w.banks[bi]? = some b)
    (hled : LedgerStepG b.v.key a.slots slots b.v.books books dA dL)
    (hslots : AllNN slots) (hd : 0 ≤ dA ∧ 0 ≤ dL) (hsv : SvFee books) (hlive : opState ≠ 3 → 0 < books.asv) :
    SInv (w.commit ai bi a b slots flags books opState window dA dL) :=
  ⟨commit_inv hi.led ha hb hled, ListL.forall_getElem?_set hi.slots hslots,
   fun k => ⟨bump_nonneg (fun j => (hi.dust j).1) hd.1 k, bump_nonneg (fun j => (hi.dust j).2) hd.2 k⟩,
   ListL.forall_getElem?_set hi.banks ⟨hsv, (hi.banks bi b hb).2.1.books books opState, hlive⟩⟩

/-- vault·2^96 − claims + allowance consumed + sanctioned write-offs, for one bank -/
def pot (g : Ghost) (b : WBank) : Int := slack (g.vault b.v.key) b.v.books + g.spent b.v.key + g.written b.v.key

/-- the bank written back keeps its potential if its claims rise by no more than the effect booked under its key accounts for -/
theorem pot_set {g : Ghost} {bs : List WBank} {bi : Nat} {b : WBank} {books : Bank} {opState inflow allow wo : Int}
    (hb : bs[bi]? = some b) (hkeys : ∀ (j : Nat) (x : WBank), bs[j]? = some x → j ≠ bi → x.v.key ≠ b.v.key)
    (hcl : claims books ≤ claims b.v.books + inflow * ONE * ONE + allow + wo) (hl : b.v.books.lsv ≤ books.lsv) :
    ∀ (j : Nat) (x x' : WBank), bs[j]? = some x → (bs.set bi { b with v := { b.v with books, opState } })[j]? = some x' →
      pot g x ≤ pot (g.add ⟨b.v.key, inflow, allow, wo⟩) x' ∧ x.v.books.lsv ≤ x'.v.books.lsv := by
  intro j x x' hx hx'
  unfold pot Ghost.add bump slack
  rcases ListL.getElem?_set_cases hb hx' with ⟨rfl, rfl⟩ | ⟨hj, hx'⟩
  · rw [hb] at hx; cases hx
    simp only [if_true]
    rw [Int.add_mul, Int.add_mul]
    exact ⟨by omega, hl⟩
  · rw [hx] at hx'; cases hx'
    simp only [hkeys j x hx (Ne.symm hj), if_false]
    exact ⟨Int.le_refl _, Int.le_refl _⟩

theorem SInv.keys {w : WState} (hi : SInv w) {bi : Nat} {b : WBank} (hb : w.banks[bi]? = some b) :
    ∀ (j : Nat) (x : WBank), w.banks[j]? = some x → j ≠ bi → x.v.key ≠ b.v.key :=
  fun j x hx hj => hi.led.keys j bi x b hx hb hj

theorem commit2_sinv {w : WState} {qi ei abi lbi : Nat} {lq le : AcctV} {ab lb : WBank} {o : LiqOutW} {signer : Nat}
    (hi : SInv w) (hqe : qi ≠ ei) (hbl : abi ≠ lbi)
    (hq : w.accts[qi]? = some lq) (he : w.accts[ei]? = some le) (hab : w.banks[abi]? = some ab) (hlb : w.banks[lbi]? = some lb)
    (hs : LedgerStep2 (w.liqCtx lq le ab lb signer) o) (hv : Solv2 (w.liqCtx lq le ab lb signer) o) :
    SInv (w.commit2 qi ei abi lbi lq le ab lb o) := by
  obtain ⟨_, cfgA, liveA⟩ := hi.banks abi ab hab
  obtain ⟨_, cfgL, liveL⟩ := hi.banks lbi lb hlb
  exact ⟨commit2_inv hi.led hqe hbl hq he hab hlb hs,
    ListL.forall_getElem?_set (ListL.forall_getElem?_set hi.slots hv.slotsQ) hv.slotsE, hi.dust,
    ListL.forall_getElem?_set
      (ListL.forall_getElem?_set hi.banks
        ⟨hv.svA, cfgA.books _ _, fun h3 => Int.lt_of_lt_of_le (liveA h3) hv.monoA.1⟩)
      ⟨hv.svL, cfgL.books _ _, fun h3 => Int.lt_of_lt_of_le (liveL h3) hv.monoL.1⟩⟩

/-- the collateral bank is written back first, then the debt bank, each with its own effect -/
theorem commit2_pot {w : WState} {qi ei abi lbi : Nat} {lq le : AcctV} {ab lb : WBank} {o : LiqOutW} {signer : Nat} {g : Ghost}
    (hi : SInv w) (hbl : abi ≠ lbi) (hab : w.banks[abi]? = some ab) (hlb : w.banks[lbi]? = some lb)
    (hv : Solv2 (w.liqCtx lq le ab lb signer) o) :
    ∀ (j : Nat) (x x' : WBank), w.banks[j]? = some x → (w.commit2 qi ei abi lbi lq le ab lb o).banks[j]? = some x' →
      pot g x ≤ pot (g.apply
        [⟨ab.v.key, 0, accrueAllowance ab.v.books ab.v.ir w.now + (o.assetBooks.asv + o.assetBooks.lsv + 1), 0⟩,
         ⟨lb.v.key, -o.insuranceTokens, accrueAllowance lb.v.books lb.v.ir w.now + (o.liabBooks.asv + o.liabBooks.lsv + 1), 0⟩]) x' ∧
      x.v.books.lsv ≤ x'.v.books.lsv := by
  intro j x x' hx hx'
  have hlb' : (w.banks.set abi { ab with v := { ab.v with books := o.assetBooks } })[lbi]? = some lb :=
    (List.getElem?_set_ne hbl).trans hlb
  have hkeys : ∀ (j : Nat) (y : WBank), (w.banks.set abi { ab with v := { ab.v with books := o.assetBooks } })[j]? = some y →
      j ≠ lbi → y.v.key ≠ lb.v.key := fun j y hy hj => by
    rcases ListL.getElem?_set_cases hab hy with ⟨rfl, rfl⟩ | ⟨_, hy⟩
    · exact hi.keys hlb abi ab hab hbl
    · exact hi.keys hlb j y hy hj
  obtain ⟨x1, hx1⟩ : ∃ x1, (w.banks.set abi { ab with v := { ab.v with books := o.assetBooks } })[j]? = some x1 := by
    rw [ListL.getElem?_set_of_some hab]; split
    · exact ⟨_, rfl⟩
    · exact ⟨x, hx⟩
  have hA : claims o.assetBooks ≤ claims ab.v.books + 0 * ONE * ONE +
      (accrueAllowance ab.v.books ab.v.ir w.now + (o.assetBooks.asv + o.assetBooks.lsv + 1)) + 0 := by
    have : claims o.assetBooks ≤ claims ab.v.books + accrueAllowance ab.v.books ab.v.ir w.now +
      (o.assetBooks.asv + o.assetBooks.lsv + 1) := hv.claimsA
    omega
  have hL : claims o.liabBooks ≤ claims lb.v.books + -o.insuranceTokens * ONE * ONE +
      (accrueAllowance lb.v.books lb.v.ir w.now + (o.liabBooks.asv + o.liabBooks.lsv + 1)) + 0 := by
    have : claims o.liabBooks ≤ claims lb.v.books - o.insuranceTokens * ONE * ONE + accrueAllowance lb.v.books lb.v.ir w.now +
      (o.liabBooks.asv + o.liabBooks.lsv + 1) := hv.claimsL
    rw [Int.neg_mul, Int.neg_mul]; omega
  obtain ⟨p1, l1⟩ := pot_set (g := g) hab (hi.keys hab) hA hv.monoA.2 j x x1 hx hx1
  obtain ⟨p2, l2⟩ := pot_set hlb' hkeys hL hv.monoL.2 j x1 x' hx1 hx'
  exact ⟨Int.le_trans p1 p2, Int.le_trans l1 l2⟩

theorem pre2_of_inv {w : WState} (hi : SInv w) {qi ei abi lbi : Nat} {lq le : AcctV} {ab lb : WBank}
    (hq : w.accts[qi]? = some lq) (he : w.accts[ei]? = some le) (hab : w.banks[abi]? = some ab) (hlb : w.banks[lbi]? = some lb)
    (signer : Nat) : Pre2 (w.liqCtx lq le ab lb signer) := by
  obtain ⟨svA, cfgA, liveA⟩ := hi.banks abi ab hab
  obtain ⟨svL, cfgL, liveL⟩ := hi.banks lbi lb hlb
  obtain ⟨a1, a2⟩ := totals_nonneg hi hab
  obtain ⟨l1, l2⟩ := totals_nonneg hi hlb
  exact ⟨svA, a1, a2, cfgA, liveA, svL, l1, l2, cfgL, liveL, hi.slots qi lq hq, hi.slots ei le he⟩

theorem commitB_sinv {w : WState} {bi : Nat} {b : WBank} {books : Bank} (hi : SInv w) (hb : w.banks[bi]? = some b)
    (hsa : books.sa = b.v.books.sa) (hsl : books.sl = b.v.books.sl) (hsv : SvFee books) (hasv : b.v.books.asv ≤ books.asv) :
    SInv (w.commitB bi b books) := by
  obtain ⟨_, hcfg, hlive⟩ := hi.banks bi b hb
  exact ⟨commitB_inv hi.led hb hsa hsl, hi.slots, hi.dust,
    ListL.forall_getElem?_set hi.banks ⟨hsv, hcfg.books _ _, fun h3 => Int.lt_of_lt_of_le (hlive h3) hasv⟩⟩

theorem same_pot {w : WState} {g : Ghost} : ∀ (j : Nat) (x x' : WBank), w.banks[j]? = some x → w.banks[j]? = some x' →
    pot g x ≤ pot (g.apply []) x' ∧ x.v.books.lsv ≤ x'.v.books.lsv := by
  intro j x x' hx hx'
  rw [hx] at hx'; cases hx'
  exact ⟨Int.le_refl _, Int.le_refl _⟩

/-- the effect `stepE` books for an accepted user instruction is the one its solvency step speaks of -/
theorem UserIx.effect {w : WState} (hi : SInv w) {op : WOp} {ai bi signer : Nat} {vault : Int} {run : Ctx → Res Out}
    {dust : Slot → Int × Int} (hu : UserIx op ai bi signer vault run dust) {a : AcctV} {b : WBank} {o : Out}
    (ha : w.accts[ai]? = some a) (hb : w.banks[bi]? = some b) (ho : run (w.ctx a b signer b.v.liquidityVault vault) = .ok o)
    (hop : op.Ok) :
    ∃ inflow allow wo, (w.stepE op).2 = [⟨b.v.key, inflow, allow, wo⟩] ∧
      Solv (w.ctx a b signer b.v.liquidityVault vault) o inflow (allow + wo) := by
  have hp := pre_of_inv hi ha hb signer b.v.liquidityVault vault
  cases hu with
  | deposit => exact ⟨_, _, _, by simp only [WState.stepE, ha, hb, ho]; rfl, by rw [Int.add_zero]; exact (deposit_booked ho hp hop).1⟩
  | withdraw => exact ⟨_, _, _, by simp only [WState.stepE, ha, hb, ho]; rfl, by rw [Int.add_zero]; exact (withdraw_booked ho hp hop).1⟩
  | borrow => exact ⟨_, _, _, by simp only [WState.stepE, ha, hb, ho]; rfl, by rw [Int.add_zero]; exact (borrow_booked ho hp hop).1⟩
  | repay => exact ⟨_, _, _, by simp only [WState.stepE, ha, hb, ho]; rfl, (repay_booked ho hp hop).1⟩
  | close => exact ⟨_, _, _, by simp only [WState.stepE, ha, hb, ho]; rfl, by rw [Int.add_zero]; exact close_solv ho hp⟩

/-- what a closure abandons is part of a non-negative position -/
theorem UserIx.dust_nonneg {op : WOp} {ai bi signer : Nat} {vault : Int} {run : Ctx → Res Out} {dust : Slot → Int × Int}
    (hu : UserIx op ai bi signer vault run dust) {s : Slot} (h : 0 ≤ s.a ∧ 0 ≤ s.l) : 0 ≤ (dust s).1 ∧ 0 ≤ (dust s).2 := by
  cases hu with
  | deposit => exact ⟨Int.le_refl _, Int.le_refl _⟩
  | withdraw => refine ⟨Int.le_refl _, ?_⟩; dsimp only; split <;> [exact h.2; exact Int.le_refl _]
  | borrow => exact ⟨Int.le_refl _, Int.le_refl _⟩
  | repay => refine ⟨?_, Int.le_refl _⟩; dsimp only; split <;> [exact h.1; exact Int.le_refl _]
  | close => exact h

theorem stepE_sound (w : WState) (g : Ghost) (op : WOp) (hi : SInv w) (hop : op.Ok) :
    SInv (w.stepE op).1 ∧ ∀ (j : Nat) (x x' : WBank), w.banks[j]? = some x → (w.stepE op).1.banks[j]? = some x' →
      pot g x ≤ pot (g.apply (w.stepE op).2) x' ∧ x.v.books.lsv ≤ x'.v.books.lsv := by
  rcases stepE_step? w op with ⟨_, e⟩ | ⟨w', h1, e1⟩
  · rw [e]; exact ⟨hi, same_pot⟩
  rw [e1]
  cases step?_accepted h1 with
  | @user _ ai bi signer vault a b run dust o hu ha hb ho =>
    obtain ⟨inflow, allow, wo, e2, hs⟩ := hu.effect hi ha hb ho hop
    rw [e2]
    have hcl : claims o.books ≤ claims b.v.books + inflow * ONE * ONE + (allow + wo) := hs.claims
    exact ⟨commit_sinv hi ha hb (hu.ledger ho) hs.slots (hu.dust_nonneg (slotOf_nn (hi.slots ai a ha) b.v.key)) hs.sv
        fun h3 => Int.lt_of_lt_of_le ((hi.banks bi b hb).2.2 h3) hs.asvMono,
      pot_set hb (hi.keys hb) (by omega) hs.lsvMono⟩
  | @bankruptcy ai bi signer available a b o ha hb ho =>
    simp only [WState.stepE, ha, hb, ho]
    have hs := bankruptcy_solv ho (pre_of_inv hi ha hb _ _ _) hop
    exact ⟨commit_sinv hi ha hb (bankruptcy_ledger ho) hs.slots ⟨Int.le_refl _, Int.le_refl _⟩ hs.sv hs.live,
      pot_set hb (hi.keys hb) hs.claims hs.lsvMono⟩
  | @liquidate qi ei abi lbi signer amount lq le ab lb o hqe hbl hq he hab hlb ho =>
    simp only [WState.stepE, if_neg (not_or.mpr ⟨hqe, hbl⟩), hq, he, hab, hlb, ho]
    have hs := liquidate_solv ho (pre2_of_inv hi hq he hab hlb signer)
    exact ⟨commit2_sinv hi hqe hbl hq he hab hlb (liquidate_ledger ho) hs, commit2_pot hi hbl hab hlb hs⟩
  | @transfer ai signer newKey newAuth ok a o n _ _ ha ho =>
    obtain ⟨e1, e2, _, _⟩ := transferIx_ok ho
    refine ⟨⟨transfer_inv hi.led ha e1 e2, fun i x hx => ?_, hi.dust, hi.banks⟩, same_pot⟩
    rcases List.mem_append.mp (List.mem_of_getElem? hx) with hm | hm
    · refine ListL.forall_mem_set (P := fun y : AcctV => AllNN y.slots) (fun y hy => ?_) ?_ x hm
      · exact (List.getElem?_of_mem hy).elim fun i' hi' => hi.slots i' y hi'
      · rw [e1]
        intro s hs
        rw [List.eq_of_mem_replicate hs]
        exact ⟨Int.le_refl _, Int.le_refl _⟩
    · rw [List.mem_singleton.mp hm, e2]; exact hi.slots ai a ha
  | @accrue bi b books hb ho =>
    simp only [WState.stepE, hb, ho]
    obtain ⟨hsv, hcfg, _⟩ := hi.banks bi b hb
    obtain ⟨h1, h2⟩ := totals_nonneg hi hb
    obtain ⟨hcl, hsv', m1, m2, e1, e2⟩ := accrue_solv (accrueIx_ok ho) hsv h1 h2 hcfg.fees hcfg.base
    have hcl' : claims books ≤ claims b.v.books + 0 * ONE * ONE + accrueAllowance b.v.books b.v.ir w.now + 0 := by
      have : claims books ≤ claims b.v.books + accrueAllowance b.v.books b.v.ir w.now := hcl
      omega
    exact ⟨commitB_sinv hi hb e1 e2 hsv' m1, pot_set hb (hi.keys hb) hcl' m2⟩
  | @collect bi ok vault b o hb ho =>
    simp only [WState.stepE, hb, ho]
    obtain ⟨_, r, hr, hbk, t1, t2, t3⟩ := collectFeesIx_ok ho
    obtain ⟨hcl, hsv'⟩ := collect_solv hr (hi.banks bi b hb).1
    rw [hbk, t1, t2, t3]
    exact ⟨commitB_sinv hi hb rfl rfl hsv' (Int.le_refl _),
      pot_set hb (hi.keys hb) (by rw [Int.add_zero, Int.add_zero]; exact Int.le_of_eq hcl) (Int.le_refl _)⟩
  | tick dt => exact ⟨⟨⟨hi.led.keys, hi.led.ledgerA, hi.led.ledgerL⟩, hi.slots, hi.dust, hi.banks⟩, same_pot⟩

/-- the ghost ledgers along a history -/
def WState.runE (w : WState) (g : Ghost) : List WOp → WState × Ghost
  | [] => (w, g)
  | op :: rest => WState.runE (w.stepE op).1 (g.apply (w.stepE op).2) rest

/-- `w', g'` come after `w, g`: the invariant holds, every bank keeps its place and key, no potential falls, no debt share
    value falls -/
def Good (w : WState) (g : Ghost) (w' : WState) (g' : Ghost) : Prop :=
  SInv w' ∧ BanksKeep (fun x x' => x'.v.key = x.v.key ∧ pot g x ≤ pot g' x' ∧ x.v.books.lsv ≤ x'.v.books.lsv) w w'

theorem good_refl {w : WState} {g : Ghost} (hi : SInv w) : Good w g w g :=
  ⟨hi, BanksKeep.refl (fun _ => ⟨rfl, Int.le_refl _, Int.le_refl _⟩) w⟩

theorem good_trans {w1 w2 w3 : WState} {g1 g2 g3 : Ghost} (h12 : Good w1 g1 w2 g2) (h23 : Good w2 g2 w3 g3) : Good w1 g1 w3 g3 :=
  ⟨h23.1, BanksKeep.trans (fun _ _ _ ⟨k2, p2, l2⟩ ⟨k3, p3, l3⟩ => ⟨k3.trans k2, Int.le_trans p2 p3, Int.le_trans l2 l3⟩) h12.2 h23.2⟩

theorem stepE_good (w : WState) (g : Ghost) (op : WOp) (hi : SInv w) (hop : op.Ok) :
    Good w g (w.stepE op).1 (g.apply (w.stepE op).2) := by
  obtain ⟨hinv, hpot⟩ := stepE_sound w g op hi hop
  refine ⟨hinv, fun j x hx => ?_⟩
  obtain ⟨x', hx', hc⟩ := step_bank_frame w op j x hx
  rw [← stepE_fst] at hx'
  exact ⟨x', hx', hc.1, hpot j x x' hx hx'⟩

theorem runE_sound (ops : List WOp) : ∀ (w : WState) (g : Ghost), SInv w → (∀ op ∈ ops, op.Ok) →
    SInv (w.runE g ops).1 ∧ ∀ (j : Nat) (x : WBank), w.banks[j]? = some x →
      ∃ x', (w.runE g ops).1.banks[j]? = some x' ∧ x'.v.key = x.v.key ∧ pot g x ≤ pot (w.runE g ops).2 x' ∧
        x.v.books.lsv ≤ x'.v.books.lsv := by
  induction ops with
  | nil => intro w g hi _; exact good_refl hi
  | cons op rest ih =>
    intro w g hi hok
    have h1 := stepE_good w g op hi (hok op (List.mem_cons_self ..))
    exact good_trans h1 (ih _ _ h1.1 fun q hq => hok q (List.mem_cons_of_mem _ hq))

end Mfi.World
