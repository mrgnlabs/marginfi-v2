/-
  Transactions on the world state machine (Mfi/Model/WorldTx.lean). Every "position `j` of a committed transaction was reached
  with an invariant" statement, here, in WorldRecvL and in WorldTxSolv, is an instance of ONE induction over the positions of a
  run (`runFrom_ind`); the flash-loan bracket is the first: a raised flag has its own end still ahead (`Pending`).
-/
import Mfi.Lemmas.WorldStep

namespace Mfi.World
open Mfi Mfi.Fx Mfi.Bank Mfi.Account Mfi.Gen

def inFlash (a : AcctV) : Bool := hasFlag a.flags ACCOUNT_IN_FLASHLOAN

theorem step?_some {w w' : WState} {op : WOp} (h : w.step? op = some w') : w' = w.step op := by
  rw [step_getD, h]; rfl

theorem stepIn_accepted {w w' : WState} {tx : List TOp} {i : Nat} {op : WOp} (h : w.stepIn tx i (.ix op) = some w') : Accepted w op w' :=
  step?_accepted h

theorem startFlashloan_ok {c : Ctx} {cur endIdx : Nat} {endIx : Option Bool} {f : Nat} (h : startFlashloan c cur endIdx endIx = .ok f) :
    c.a.authority = c.signer ∧ cur < endIdx ∧ endIx = some true ∧
    flag c ACCOUNT_DISABLED = false ∧ flag c ACCOUNT_IN_FLASHLOAN = false ∧ flag c ACCOUNT_IN_RECEIVERSHIP = false ∧
    flag c ACCOUNT_FROZEN = false ∧ f = c.a.flags ||| ACCOUNT_IN_FLASHLOAN.toNat := by
  unfold startFlashloan at h
  apply Res.bind_elim h; clear h; intro _ hc h
  apply Res.bind_elim h; clear h; intro _ hlt h
  apply Res.bind_elim h; clear h; intro mine hm h
  apply Res.bind_elim h; clear h; intro _ hmine h
  apply Res.bind_elim h; clear h; intro _ hd h
  apply Res.bind_elim h; clear h; intro _ hf h
  apply Res.bind_elim h; clear h; intro _ hr h
  apply Res.bind_elim h; clear h; intro _ hz h
  injection h with h8
  have he : endIx = some true := by
    cases endIx with
    | none => cases hm
    | some k => injection hm with hm; rw [hm, chk_ok hmine]
  exact ⟨authority_row hc (by decide), by simpa using chk_ok hlt, he, by simpa using chk_ok hd, by simpa using chk_ok hf,
    by simpa using chk_ok hr, by simpa using chk_ok hz, h8.symm⟩

theorem startFlashloan_marks {c : Ctx} {cur endIdx : Nat} {endIx : Option Bool} {f : Nat} (h : startFlashloan c cur endIdx endIx = .ok f) :
    hasFlag f ACCOUNT_IN_FLASHLOAN = true ∧ hasFlag f ACCOUNT_IN_RECEIVERSHIP = hasFlag c.a.flags ACCOUNT_IN_RECEIVERSHIP := by
  rw [(startFlashloan_ok h).2.2.2.2.2.2.2, hasFlag_or FLASH_bit FLASH_bit, hasFlag_or FLASH_bit RECV_bit]
  exact ⟨Bool.or_true _, Bool.or_false _⟩

/-- `liqShape` and `delevShape` are ONE rule (`validate_instructions`) for two pairs of start / end instructions -/
theorem shape_ok {isStart isEnd allowed : TOp → Bool} {tx : List TOp} {cur : Nat}
    (h : (match tx with
          | [] => .error .panic
          | t0 :: rest =>
            if !isStart t0 then .error (.err E.StartNotFirst)
            else if rest.any isStart then .error (.err E.StartRepeats)
            else if !((tx.getLast?).map isEnd).getD false then .error (.err E.EndNotLast)
            else if !tx.all allowed then .error (.err E.ForbiddenIx)
            else if cur < tx.length - 1 then .ok () else .error (.err E.StartNotFirst) : Res Unit) = .ok ()) :
    ∃ t0 rest, tx = t0 :: rest ∧ isStart t0 = true ∧ rest.any isStart = false ∧
      ((tx.getLast?).map isEnd).getD false = true ∧ tx.all allowed = true ∧ cur < tx.length - 1 := by
  cases tx with
  | nil => cases h
  | cons t0 rest =>
    obtain ⟨h1, h⟩ := Res.of_ite_error h
    obtain ⟨h2, h⟩ := Res.of_ite_error h
    obtain ⟨h3, h⟩ := Res.of_ite_error h
    obtain ⟨h4, h⟩ := Res.of_ite_error h
    obtain ⟨h5, _⟩ := Res.of_ite_else_error h
    have nb : ∀ {b : Bool}, ¬ (!b) = true → b = true := by decide
    exact ⟨t0, rest, rfl, nb h1, Bool.of_not_eq_true h2, nb h3, nb h4, h5⟩

theorem liqShape_ok {tx : List TOp} {cur : Nat} (h : liqShape tx cur = .ok ()) :
    ∃ t0 rest, tx = t0 :: rest ∧ isStartLiq t0 = true ∧ rest.any isStartLiq = false ∧
      ((tx.getLast?).map isEndLiq).getD false = true ∧ tx.all liqAllowed = true ∧ cur < tx.length - 1 := shape_ok h

theorem delevShape_ok {tx : List TOp} {cur : Nat} (h : delevShape tx cur = .ok ()) :
    ∃ t0 rest, tx = t0 :: rest ∧ isStartDelev t0 = true ∧ rest.any isStartDelev = false ∧
      ((tx.getLast?).map isEndDelev).getD false = true ∧ tx.all delevAllowed = true ∧ cur < tx.length - 1 := shape_ok h

/-! ### an accepted bracket instruction, read backwards

All six have one shape: the account named, then the instruction's verdict on it. The verdict is `cases`d per instruction: a lemma
over `Res α` for a variable `α` states a `match` whose matcher takes `α` as an argument, and no longer unifies with `stepIn`. -/

theorem acct_some {w w' : WState} {ai : Nat} {f : AcctV → Option WState}
    (h : (match w.accts[ai]? with | some a => f a | none => none) = some w') : ∃ a, w.accts[ai]? = some a ∧ f a = some w' := by
  revert h
  cases w.accts[ai]? with
  | none => intro h; cases h
  | some a => intro h; exact ⟨a, rfl, h⟩

theorem stepIn_startFlash {w w' : WState} {tx : List TOp} {i ai signer endIdx : Nat} (h : w.stepIn tx i (.startFlash ai signer endIdx) = some w') :
    ∃ a f, w.accts[ai]? = some a ∧ startFlashloan (w.actx a signer) i endIdx ((tx[endIdx]?).map (isEndFlashOf ai)) = .ok f ∧
      w' = { w with accts := w.accts.set ai { a with flags := f } } := by
  obtain ⟨a, ha, h⟩ := acct_some h
  revert h
  cases ho : startFlashloan (w.actx a signer) i endIdx ((tx[endIdx]?).map (isEndFlashOf ai)) with
  | error e => intro h; cases h
  | ok f => intro h; exact ⟨a, f, ha, ho, (Option.some.inj h).symm⟩

theorem stepIn_endFlash {w w' : WState} {tx : List TOp} {i ai signer : Nat} (h : w.stepIn tx i (.endFlash ai signer) = some w') :
    ∃ a f, w.accts[ai]? = some a ∧ endFlashloan (w.actx a signer) 1 = .ok f ∧ w' = { w with accts := w.accts.set ai { a with flags := f } } := by
  obtain ⟨a, ha, h⟩ := acct_some h
  revert h
  cases ho : endFlashloan (w.actx a signer) 1 with
  | error e => intro h; cases h
  | ok f => intro h; exact ⟨a, f, ha, ho, (Option.some.inj h).symm⟩

theorem stepIn_startLiq {w w' : WState} {tx : List TOp} {i ai receiver : Nat} {recordOk : Bool} (h : w.stepIn tx i (.startLiq ai receiver recordOk) = some w') :
    ∃ a o, w.accts[ai]? = some a ∧ startLiquidation (w.rctx a recordOk receiver true 0) (liqShape tx i) = .ok o ∧
      w' = { w with accts := w.accts.set ai { a with flags := o.flags, recReceiver := o.receiver, recCache := o.cache } } := by
  obtain ⟨a, ha, h⟩ := acct_some h
  revert h
  cases ho : startLiquidation (w.rctx a recordOk receiver true 0) (liqShape tx i) with
  | error e => intro h; cases h
  | ok o => intro h; exact ⟨a, o, ha, ho, (Option.some.inj h).symm⟩

theorem stepIn_endLiq {w w' : WState} {tx : List TOp} {i ai signer : Nat} {recordOk walletOk : Bool} {feeMax : Int}
    (h : w.stepIn tx i (.endLiq ai signer recordOk walletOk feeMax) = some w') :
    ∃ a o, w.accts[ai]? = some a ∧ endLiquidation (w.rctx a recordOk signer walletOk feeMax) 1 = .ok o ∧
      w' = { w with accts := w.accts.set ai { a with flags := o.flags, recReceiver := 0 } } := by
  obtain ⟨a, ha, h⟩ := acct_some h
  revert h
  cases ho : endLiquidation (w.rctx a recordOk signer walletOk feeMax) 1 with
  | error e => intro h; cases h
  | ok o => intro h; exact ⟨a, o, ha, ho, (Option.some.inj h).symm⟩

theorem stepIn_startDelev {w w' : WState} {tx : List TOp} {i ai signer : Nat} {recordOk : Bool} (h : w.stepIn tx i (.startDelev ai signer recordOk) = some w') :
    ∃ a o, w.accts[ai]? = some a ∧ startDeleverage (w.rctx a recordOk signer true 0) (delevShape tx i) = .ok o ∧
      w' = { w with accts := w.accts.set ai { a with flags := o.flags, recReceiver := o.receiver, recCache := o.cache } } := by
  obtain ⟨a, ha, h⟩ := acct_some h
  revert h
  cases ho : startDeleverage (w.rctx a recordOk signer true 0) (delevShape tx i) with
  | error e => intro h; cases h
  | ok o => intro h; exact ⟨a, o, ha, ho, (Option.some.inj h).symm⟩

theorem stepIn_endDelev {w w' : WState} {tx : List TOp} {i ai signer : Nat} {recordOk : Bool} (h : w.stepIn tx i (.endDelev ai signer recordOk) = some w') :
    ∃ a o, w.accts[ai]? = some a ∧ endDeleverage (w.rctx a recordOk signer true 0) 1 = .ok o ∧
      w' = { w with accts := w.accts.set ai { a with flags := o.flags, recReceiver := 0 } } := by
  obtain ⟨a, ha, h⟩ := acct_some h
  revert h
  cases ho : endDeleverage (w.rctx a recordOk signer true 0) 1 with
  | error e => intro h; cases h
  | ok o => intro h; exact ⟨a, o, ha, ho, (Option.some.inj h).symm⟩

/-- what a bracket instruction does to the ONE account it rewrites (`a` into `a'`), in three kinds: the flash-loan pair leaves the
    receivership mark and the liquidation record alone; a start of receivership passed the shape rule and marks the account; an
    end found the mark, clears it and the receiver -/
inductive Rewrites (tx : List TOp) (i ai : Nat) (t : TOp) (a a' : AcctV) : Prop
  | flash (hk : (∃ s e, t = .startFlash ai s e) ∨ (inFlash a' = false ∧ ∃ s, t = .endFlash ai s))
      (hr : hasFlag a'.flags ACCOUNT_IN_RECEIVERSHIP = hasFlag a.flags ACCOUNT_IN_RECEIVERSHIP)
      (hrec : a'.recReceiver = a.recReceiver ∧ a'.recCache = a.recCache)
  | start (hk : (liqShape tx i = .ok () ∧ ∃ r ok, t = .startLiq ai r ok) ∨ (delevShape tx i = .ok () ∧ ∃ r ok, t = .startDelev ai r ok))
      (hf : inFlash a' = inFlash a) (hr : hasFlag a'.flags ACCOUNT_IN_RECEIVERSHIP = true)
  | end_ (hk : isEndLiq t = true ∨ isEndDelev t = true) (hf : inFlash a' = inFlash a)
      (hr0 : hasFlag a.flags ACCOUNT_IN_RECEIVERSHIP = true) (hr : hasFlag a'.flags ACCOUNT_IN_RECEIVERSHIP = false)
      (hrec : a'.recReceiver = 0)

/-- an accepted instruction of a transaction is a whole instruction, or one of the six bracket instructions: such a one replaces
    ONE account of the world by one with the same positions, whose marks and record are as `Rewrites` says -/
theorem stepIn_cases {w w' : WState} {tx : List TOp} {i : Nat} {t : TOp} (h : w.stepIn tx i t = some w') :
    (∃ op, t = .ix op ∧ w.step? op = some w') ∨
    ∃ ai a a', w.accts[ai]? = some a ∧ w' = { w with accts := w.accts.set ai a' } ∧ a'.slots = a.slots ∧ Rewrites tx i ai t a a' := by
  cases t with
  | ix op => exact Or.inl ⟨op, rfl, h⟩
  | startFlash ai signer endIdx =>
    obtain ⟨a, _, ha, hf, rfl⟩ := stepIn_startFlash h
    exact Or.inr ⟨ai, a, _, ha, rfl, rfl, .flash (.inl ⟨_, _, rfl⟩) (startFlashloan_marks hf).2 ⟨rfl, rfl⟩⟩
  | endFlash ai signer =>
    obtain ⟨a, _, ha, hf, rfl⟩ := stepIn_endFlash h
    exact Or.inr ⟨ai, a, _, ha, rfl, rfl, .flash (.inr ⟨(endFlashloan_marks hf).1, _, rfl⟩) (endFlashloan_marks hf).2 ⟨rfl, rfl⟩⟩
  | startLiq ai receiver recordOk =>
    obtain ⟨a, _, ha, ho, rfl⟩ := stepIn_startLiq h
    exact Or.inr ⟨ai, a, _, ha, rfl, rfl, .start (.inl ⟨(startLiquidation_ok ho).2.2.1, _, _, rfl⟩) (startLiquidation_marks ho).1 (startLiquidation_marks ho).2⟩
  | endLiq ai signer recordOk walletOk feeMax =>
    obtain ⟨a, _, ha, ho, rfl⟩ := stepIn_endLiq h
    exact Or.inr ⟨ai, a, _, ha, rfl, rfl, .end_ (.inl rfl) (endLiquidation_marks ho).1 (endLiquidation_ok ho).2.1 (endLiquidation_marks ho).2 rfl⟩
  | startDelev ai signer recordOk =>
    obtain ⟨a, _, ha, ho, rfl⟩ := stepIn_startDelev h
    exact Or.inr ⟨ai, a, _, ha, rfl, rfl, .start (.inr ⟨(startDeleverage_ok ho).2.2.1, _, _, rfl⟩) (startDeleverage_marks ho).1 (startDeleverage_marks ho).2⟩
  | endDelev ai signer recordOk =>
    obtain ⟨a, _, ha, ho, rfl⟩ := stepIn_endDelev h
    exact Or.inr ⟨ai, a, _, ha, rfl, rfl, .end_ (.inr rfl) (endDeleverage_marks ho).1 (endDeleverage_ok ho).2.1 (endDeleverage_marks ho).2 rfl⟩

/-- what every whole instruction keeps, and rewriting one account into one with the same positions keeps, every accepted
    instruction of a transaction keeps -/
theorem stepIn_keeps {P : WState → Prop} (hstep : ∀ (w : WState) (op : WOp), P w → P (w.step op))
    (hset : ∀ {w : WState} {ai : Nat} {a a' : AcctV}, P w → w.accts[ai]? = some a → a'.slots = a.slots → P { w with accts := w.accts.set ai a' })
    {tx : List TOp} {i : Nat} {t : TOp} {w w' : WState} (h : w.stepIn tx i t = some w') (hp : P w) : P w' := by
  rcases stepIn_cases h with ⟨op, rfl, hs⟩ | ⟨ai, a, a', ha, rfl, hs, _⟩
  · exact step?_some hs ▸ hstep w op hp
  · exact hset hp ha hs

/-- the state instruction `i` of transaction `tx` finds when the transaction is run on `w`: the first `i` instructions executed -/
def WState.before (w : WState) (tx : List TOp) (i : Nat) : Option WState := WState.runFrom tx 0 (tx.take i) w

theorem runFrom_cons {tx : List TOp} {i : Nat} {op : TOp} {rest : List TOp} {w w' : WState} (h : WState.runFrom tx i (op :: rest) w = some w') :
    ∃ w1, w.stepIn tx i op = some w1 ∧ WState.runFrom tx (i + 1) rest w1 = some w' := by
  revert h
  show (match w.stepIn tx i op with | some w1 => WState.runFrom tx (i + 1) rest w1 | none => none) = some w' → _
  cases w.stepIn tx i op with
  | none => intro h; cases h
  | some w1 => intro h; exact ⟨w1, rfl, h⟩

theorem runFrom_snoc (tx : List TOp) : ∀ (l : List TOp) (k : Nat) (w wk w1 : WState) (op : TOp),
    WState.runFrom tx k l w = some wk → wk.stepIn tx (k + l.length) op = some w1 → WState.runFrom tx k (l ++ [op]) w = some w1 := by
  intro l
  induction l with
  | nil =>
    intro k w wk w1 op h hs
    cases h
    show (match w.stepIn tx k op with | some w' => WState.runFrom tx (k + 1) [] w' | none => none) = some w1
    rw [show w.stepIn tx k op = some w1 from hs]; rfl
  | cons x rest ih =>
    intro k w wk w1 op h hs
    revert h
    show (match w.stepIn tx k x with | some w' => WState.runFrom tx (k + 1) rest w' | none => none) = some wk →
      (match w.stepIn tx k x with | some w' => WState.runFrom tx (k + 1) (rest ++ [op]) w' | none => none) = some w1
    cases w.stepIn tx k x with
    | none => intro h; cases h
    | some w2 =>
      intro h
      refine ih (k + 1) w2 wk w1 op h ?_
      rw [Nat.add_right_comm]; exact hs

theorem before_succ {w0 w w' : WState} {tx : List TOp} {i : Nat} {t : TOp} (ht : tx[i]? = some t) (hb : w0.before tx i = some w)
    (hs : w.stepIn tx i t = some w') : w0.before tx (i + 1) = some w' := by
  have hlt : i < tx.length := (List.getElem?_eq_some_iff.mp ht).1
  unfold WState.before
  rw [List.take_add_one, ht]
  refine runFrom_snoc tx (tx.take i) 0 w0 w w' t hb ?_
  rw [List.length_take, Nat.min_eq_left (Nat.le_of_lt hlt), Nat.zero_add]; exact hs

/-- The induction over a run of instructions: what every accepted instruction carries from its position to the next holds at
    the end of a run that goes through, and EVERY position of the run was reached by a state with it on which the instruction
    there was accepted -/
theorem runFrom_ind {tx : List TOp} {I : Nat → WState → Prop}
    (hstep : ∀ (i : Nat) (t : TOp) (w w' : WState), tx[i]? = some t → w.stepIn tx i t = some w' → I i w → I (i + 1) w') :
    ∀ (rest : List TOp) (i : Nat) (w w' : WState), tx.drop i = rest → WState.runFrom tx i rest w = some w' → I i w →
      I (i + rest.length) w' ∧
      ∀ (j : Nat) (t : TOp), i ≤ j → tx[j]? = some t → ∃ (wj wj' : WState), I j wj ∧ wj.stepIn tx j t = some wj' := by
  intro rest
  induction rest with
  | nil =>
    intro i w w' hd h hi
    cases h
    refine ⟨hi, fun j t hij hj => ?_⟩
    have hlen : tx.length ≤ i := List.drop_eq_nil_iff.mp hd
    rw [List.getElem?_eq_none (Nat.le_trans hlen hij)] at hj; cases hj
  | cons op rest ih =>
    intro i w w' hd h hi
    have hti : tx[i]? = some op := by rw [← List.head?_drop, hd, List.head?_cons]
    have hd' : tx.drop (i + 1) = rest := by rw [← List.tail_drop, hd, List.tail_cons]
    obtain ⟨w1, h1, h⟩ := runFrom_cons h
    obtain ⟨hend, hat⟩ := ih (i + 1) w1 w' hd' h (hstep i op w w1 hti h1 hi)
    refine ⟨by rw [List.length_cons, Nat.add_comm rest.length, ← Nat.add_assoc]; exact hend, fun j t hij hj => ?_⟩
    rcases Nat.lt_or_ge i j with hlt | hge
    · exact hat j t hlt hj
    · obtain rfl : j = i := Nat.le_antisymm hge hij
      rw [hti] at hj; cases hj
      exact ⟨w, w1, hi, h1⟩

/-- `runFrom_ind`, naming the states reached: they are the ones `WState.before` gives -/
theorem runFrom_ind_b {tx : List TOp} {w0 : WState} {I : Nat → WState → Prop}
    (hstep : ∀ (i : Nat) (t : TOp) (w w' : WState), tx[i]? = some t → w.stepIn tx i t = some w' → I i w → I (i + 1) w') :
    ∀ (rest : List TOp) (i : Nat) (w w' : WState), tx.drop i = rest → w0.before tx i = some w → WState.runFrom tx i rest w = some w' → I i w →
      I (i + rest.length) w' ∧
      ∀ (j : Nat) (t : TOp), i ≤ j → tx[j]? = some t →
        ∃ (wj wj' : WState), w0.before tx j = some wj ∧ I j wj ∧ wj.stepIn tx j t = some wj' := by
  intro rest i w w' hd hb h hi
  obtain ⟨hend, hat⟩ := runFrom_ind (I := fun j wj => w0.before tx j = some wj ∧ I j wj)
    (fun i t w w' ht hs hi => ⟨before_succ ht hi.1 hs, hstep i t w w' ht hs hi.2⟩) rest i w w' hd h ⟨hb, hi⟩
  refine ⟨hend.2, fun j t hij hj => ?_⟩
  obtain ⟨wj, wj', ⟨hbj, hij'⟩, hs⟩ := hat j t hij hj
  exact ⟨wj, wj', hbj, hij', hs⟩

theorem runTx_ind {tx : List TOp} {w w' : WState} {I : Nat → WState → Prop}
    (hstep : ∀ (i : Nat) (t : TOp) (wi wi' : WState), tx[i]? = some t → wi.stepIn tx i t = some wi' → I i wi → I (i + 1) wi')
    (h : w.runTx tx = some w') (h0 : I 0 w) :
    I tx.length w' ∧
    ∀ (j : Nat) (t : TOp), tx[j]? = some t → ∃ (wj wj' : WState), w.before tx j = some wj ∧ I j wj ∧ wj.stepIn tx j t = some wj' := by
  obtain ⟨hend, hat⟩ := runFrom_ind_b hstep tx 0 w w' rfl rfl h h0
  rw [Nat.zero_add] at hend
  exact ⟨hend, fun j t hj => hat j t (Nat.zero_le _) hj⟩

theorem runTx_cons {w w' : WState} {t0 : TOp} {rest : List TOp} (h : w.runTx (t0 :: rest) = some w') :
    ∃ w1, w.stepIn (t0 :: rest) 0 t0 = some w1 ∧ w.before (t0 :: rest) 1 = some w1 ∧ WState.runFrom (t0 :: rest) 1 rest w1 = some w' := by
  obtain ⟨w1, h1, hr⟩ := runFrom_cons h
  exact ⟨w1, h1, before_succ (i := 0) rfl rfl h1, hr⟩

theorem runFrom_reached (tx : List TOp) (w0 : WState) : ∀ (rest : List TOp) (i : Nat) (w w' : WState), tx.drop i = rest →
    w0.before tx i = some w → WState.runFrom tx i rest w = some w' →
    ∀ (j : Nat) (t : TOp), i ≤ j → tx[j]? = some t → ∃ (wj wj' : WState), w0.before tx j = some wj ∧ wj.stepIn tx j t = some wj' :=
  fun rest i w w' hd hb h => (runFrom_ind (I := fun j wj => w0.before tx j = some wj) (fun _ _ _ _ ht hs hb => before_succ ht hb hs) rest i w w' hd h hb).2

theorem runTx_at {tx : List TOp} {w w' : WState} (h : w.runTx tx = some w') {j : Nat} {t : TOp} (hj : tx[j]? = some t) :
    ∃ (wj wj' : WState), w.before tx j = some wj ∧ wj.stepIn tx j t = some wj' :=
  runFrom_reached tx w tx 0 w w' rfl rfl h j t (Nat.zero_le j) hj

theorem runFrom_keeps {tx : List TOp} {P : WState → Prop}
    (hstep : ∀ {i : Nat} {t : TOp} {w w' : WState}, w.stepIn tx i t = some w' → P w → P w') :
    ∀ (rest : List TOp) (i : Nat) (w w' : WState), WState.runFrom tx i rest w = some w' → P w → P w' := by
  intro rest
  induction rest with
  | nil => intro i w w' h hp; cases h; exact hp
  | cons op rest ih =>
    intro i w w' h hp
    obtain ⟨w1, h1, h⟩ := runFrom_cons h
    exact ih (i + 1) w1 w' h (hstep h1 hp)

theorem runTxs_ind {P : WState → Prop} (htx : ∀ (w w' : WState) (tx : List TOp), w.runTx tx = some w' → P w → P w') :
    ∀ (txs : List (List TOp)) (w : WState), P w → P (w.runTxs txs) := by
  intro txs
  induction txs with
  | nil => intro w h0; exact h0
  | cons tx rest ih =>
    intro w h0
    refine ih _ ?_
    cases hr : w.runTx tx with
    | none => exact h0
    | some w1 => exact htx w w1 tx hr h0

theorem runTxs_keeps {P : WState → Prop}
    (hstep : ∀ {tx : List TOp} {i : Nat} {t : TOp} {wi wi' : WState}, wi.stepIn tx i t = some wi' → P wi → P wi') :
    ∀ (txs : List (List TOp)) (w : WState), P w → P (w.runTxs txs) :=
  runTxs_ind fun w w' tx h => runFrom_keeps hstep tx 0 w w' h

theorem inFlash_disable (a : AcctV) (slots : List Slot) :
    inFlash { a with slots := slots, flags := a.flags ||| ACCOUNT_DISABLED.toNat } = inFlash a :=
  (hasFlag_or DISABLED_bit FLASH_bit a.flags).trans (Bool.or_false _)

/-- every account marked (by a predicate on accounts) afterwards was marked before, at the same place in the world -/
def NoNewP (P : AcctV → Bool) (w w' : WState) : Prop :=
  ∀ (i : Nat) (x : AcctV), w'.accts[i]? = some x → P x = true → ∃ y, w.accts[i]? = some y ∧ P y = true

theorem set_noNewP {P : AcctV → Bool} {l : List AcctV} {ai : Nat} {a a' : AcctV} (ha : l[ai]? = some a) (hf : P a' = true → P a = true) :
    ∀ (i : Nat) (x : AcctV), (l.set ai a')[i]? = some x → P x = true → ∃ y, l[i]? = some y ∧ P y = true :=
  ListL.forall_set (Q := fun k x => l[k]? = some x) ha (fun _ _ hx => hx) (fun _ x _ hq hx => ⟨x, hq, hx⟩) (fun hx => ⟨a, ha, hf hx⟩)

theorem noNewP_refl (P : AcctV → Bool) (w : WState) : NoNewP P w w := fun _ x hx hf => ⟨x, hx, hf⟩

theorem noNewP_none {P : AcctV → Bool} {w w' : WState} (h : NoNewP P w w') (h0 : ∀ (k : Nat) (a : AcctV), w.accts[k]? = some a → P a = false) :
    ∀ (k : Nat) (a : AcctV), w'.accts[k]? = some a → P a = false := by
  intro k a hk
  cases hp : P a with
  | false => rfl
  | true => obtain ⟨y, hy, hpy⟩ := h k a hk hp; rw [h0 k y hy] at hpy; cases hpy

/-- no whole instruction marks an account, for any mark that (1) is read off the flag word, (2) is not raised by disabling the
    account, (3) is absent from both accounts of an accepted transfer -/
theorem step_noNewP (P : AcctV → Bool) (hslots : ∀ (a : AcctV) (slots : List Slot), P { a with slots := slots } = P a)
    (hdis : ∀ (a : AcctV) (slots : List Slot), P { a with slots := slots, flags := a.flags ||| ACCOUNT_DISABLED.toNat } = true → P a = true)
    (htr : ∀ (g : GroupV) (a o n : AcctV) (signer newKey newAuth : Nat) (ok : Bool),
      transferIx g a signer newKey newAuth ok = .ok (o, n) → P o = false ∧ P n = false)
    (w : WState) (op : WOp) : NoNewP P w (w.step op) := by
  refine step_ind (P := NoNewP P w) w op (noNewP_refl P w) fun w' h => ?_
  cases h with
  | user hu ha hb ho => exact set_noNewP ha (fun h => (hslots _ _).symm.trans h)
  | @bankruptcy ai bi signer available a b o ha hb ho =>
    obtain ⟨_, _, _, _, _, _, _, _, _, _, rfl⟩ := (bankruptcy_ok ho).core
    exact set_noNewP ha (hdis a _)
  | @liquidate qi ei abi lbi signer amount lq le ab lb o hqe hbl hq he hab hlb ho =>
    intro i x hx hfx
    have he' : (w.accts.set qi { lq with slots := o.lqSlots })[ei]? = some le := by
      rw [ListL.getElem?_set_of_some hq, if_neg hqe]; exact he
    obtain ⟨y, hy, hfy⟩ := set_noNewP he' (fun h => (hslots le o.leSlots).symm.trans h) i x hx hfx
    exact set_noNewP hq (fun h => (hslots lq o.lqSlots).symm.trans h) i y hy hfy
  | @transfer ai signer newKey newAuth ok a o n hk hfresh ha ho =>
    -- both accounts the transfer writes are unmarked: a marked account sits in the old part of the list, away from `ai`
    obtain ⟨f1, f2⟩ := htr _ _ _ _ _ _ _ _ ho
    intro i x hx hfx
    by_cases hi : i < (w.accts.set ai o).length
    · rw [List.getElem?_append_left hi] at hx
      exact set_noNewP ha (fun h => by rw [f1] at h; cases h) i x hx hfx
    · rw [List.getElem?_append_right (Nat.le_of_not_lt hi)] at hx
      rw [List.mem_singleton.mp (List.mem_of_getElem? hx), f2] at hfx; cases hfx
  | accrue _ _ | collect _ _ | tick _ => exact noNewP_refl P w

def NoNewFlash (w w' : WState) : Prop := NoNewP inFlash w w'

theorem step_noNew (w : WState) (op : WOp) : NoNewFlash w (w.step op) :=
  step_noNewP inFlash (fun _ _ => rfl) (fun a slots hx => inFlash_disable a slots ▸ hx) (fun _ _ _ _ _ _ _ _ h => (transferIx_marks h).1) w op

theorem stepIn_noNewFlash {tx : List TOp} {i : Nat} {t : TOp} {w w' : WState} (hns : ∀ ai s e, t ≠ .startFlash ai s e)
    (h : w.stepIn tx i t = some w') : NoNewFlash w w' := by
  rcases stepIn_cases h with ⟨op, rfl, hs⟩ | ⟨ai, a, a', ha, rfl, _, k⟩
  · exact step?_some hs ▸ step_noNew w op
  refine set_noNewP ha fun hx => ?_
  cases k with
  | flash hk =>
    rcases hk with ⟨s, e, rfl⟩ | ⟨h0, _⟩
    · exact absurd rfl (hns ai s e)
    · exact Bool.noConfusion (h0.symm.trans hx)
  | start _ hf | end_ _ hf => exact hf.symm.trans hx

/-- every account flagged at position `i` of the transaction has its end still to come, for itself -/
def Pending (tx : List TOp) (i : Nat) (w : WState) : Prop :=
  ∀ (k : Nat) (a : AcctV), w.accts[k]? = some a → inFlash a = true → ∃ j s, i ≤ j ∧ tx[j]? = some (.endFlash k s)

theorem isEndFlashOf_some {tx : List TOp} {e ai : Nat} (h : (tx[e]?).map (isEndFlashOf ai) = some true) : ∃ s, tx[e]? = some (.endFlash ai s) := by
  cases hte : tx[e]? with
  | none => rw [hte] at h; cases h
  | some te =>
    rw [hte] at h
    cases te with
    | endFlash aj s => exact ⟨s, by rw [show aj = ai by simpa [isEndFlashOf] using h]⟩
    | _ => simp [isEndFlashOf] at h

theorem stepIn_pending {tx : List TOp} {i : Nat} {t : TOp} {w w' : WState} (ht : tx[i]? = some t)
    (h : w.stepIn tx i t = some w') (hp : Pending tx i w) : Pending tx (i + 1) w' := by
  intro k a' hk hfl
  by_cases hs : ∃ ai s e, t = .startFlash ai s e
  · obtain ⟨ai, signer, endIdx, rfl⟩ := hs
    obtain ⟨a, f, ha, hf, rfl⟩ := stepIn_startFlash h
    obtain ⟨_, hlt, hend, _⟩ := startFlashloan_ok hf
    rw [ListL.getElem?_set_of_some ha] at hk
    by_cases hki : ai = k
    · -- the end named by the start
      obtain ⟨s, hte⟩ := isEndFlashOf_some hend
      exact ⟨endIdx, s, hlt, hki ▸ hte⟩
    · rw [if_neg hki] at hk
      obtain ⟨j, s, hij, hj⟩ := hp k a' hk hfl
      exact ⟨j, s, Nat.lt_of_le_of_ne hij (fun e => by rw [← e, ht] at hj; cases hj), hj⟩
  · obtain ⟨y, hy, hfy⟩ := stepIn_noNewFlash (fun ai s e he => hs ⟨ai, s, e, he⟩) h k a' hk hfl
    obtain ⟨j, s, hij, hj⟩ := hp k y hy hfy
    refine ⟨j, s, Nat.lt_of_le_of_ne hij (fun e => ?_), hj⟩
    -- `j = i` would make this instruction the account's own end, which clears its flag
    rw [← e, ht] at hj; cases hj
    obtain ⟨a, f, ha, hf, rfl⟩ := stepIn_endFlash h
    rw [ListL.getElem?_set_of_some ha, if_pos rfl] at hk; cases hk
    exact Bool.noConfusion ((endFlashloan_marks hf).1.symm.trans hfl)

theorem runTx_noFlash {w w' : WState} {tx : List TOp} (h : w.runTx tx = some w')
    (h0 : ∀ (k : Nat) (a : AcctV), w.accts[k]? = some a → inFlash a = false) :
    ∀ (k : Nat) (a : AcctV), w'.accts[k]? = some a → inFlash a = false := by
  have hp := (runTx_ind (I := Pending tx) (fun _ _ _ _ => stepIn_pending) h (fun k a hk hf => by rw [h0 k a hk] at hf; cases hf)).1
  intro k a hk
  cases hfa : inFlash a with
  | false => rfl
  | true =>
    -- a flag still raised would have its end at a position past the last
    obtain ⟨j, s, hij, hj⟩ := hp k a hk hfa
    rw [List.getElem?_eq_none hij] at hj; cases hj

/-- **every end of a committed transaction ran**: the state it ran on passed `World.endFlashloan` (authority, top level, flags,
    the initial-margin check on the whole portfolio) -/
theorem runFrom_ends (tx : List TOp) : ∀ (rest : List TOp) (i : Nat) (w w' : WState), tx.drop i = rest →
    WState.runFrom tx i rest w = some w' → ∀ (j k s : Nat), i ≤ j → tx[j]? = some (.endFlash k s) →
      ∃ (wj : WState) (a : AcctV) (f : Nat), wj.accts[k]? = some a ∧ endFlashloan (wj.actx a s) 1 = .ok f := by
  intro rest i w w' hd h j k s hij hj
  obtain ⟨wj, wj', _, hs⟩ := (runFrom_ind (I := fun _ _ => True) (fun _ _ _ _ _ _ _ => trivial) rest i w w' hd h trivial).2 j _ hij hj
  obtain ⟨a, f, ha, hf, _⟩ := stepIn_endFlash hs
  exact ⟨wj, a, f, ha, hf⟩

theorem runFrom_at (tx : List TOp) : ∀ (rest : List TOp) (i : Nat) (w w' : WState), tx.drop i = rest →
    WState.runFrom tx i rest w = some w' → Pending tx i w →
    ∀ (j : Nat) (t : TOp), i ≤ j → tx[j]? = some t → ∃ (wj wj' : WState), Pending tx j wj ∧ wj.stepIn tx j t = some wj' :=
  fun rest i w w' hd h hp => (runFrom_ind (fun _ _ _ _ => stepIn_pending) rest i w w' hd h hp).2

theorem tx_endflash_ran {w w' : WState} {tx : List TOp} (h : w.runTx tx = some w')
    {j k s : Nat} (hj : tx[j]? = some (.endFlash k s)) :
    ∃ (wj : WState) (a : AcctV) (f : Nat), w.before tx j = some wj ∧ wj.accts[k]? = some a ∧ endFlashloan (wj.actx a s) 1 = .ok f := by
  obtain ⟨wj, wj', hbj, hst⟩ := runTx_at h hj
  obtain ⟨a, f, ha, hf, _⟩ := stepIn_endFlash hst
  exact ⟨wj, a, f, hbj, ha, hf⟩

theorem runFrom_at_b (tx : List TOp) (w0 : WState) : ∀ (rest : List TOp) (i : Nat) (w w' : WState), tx.drop i = rest →
    w0.before tx i = some w → WState.runFrom tx i rest w = some w' → Pending tx i w →
    ∀ (j : Nat) (t : TOp), i ≤ j → tx[j]? = some t →
      ∃ (wj wj' : WState), w0.before tx j = some wj ∧ Pending tx j wj ∧ wj.stepIn tx j t = some wj' :=
  fun rest i w w' hd hb h hp => (runFrom_ind_b (fun _ _ _ _ => stepIn_pending) rest i w w' hd hb h hp).2

theorem tx_user_ran {w w' : WState} {tx : List TOp} (h : w.runTx tx = some w') {i : Nat} {op : WOp} (hi : tx[i]? = some (.ix op))
    {ai bi signer : Nat} {vault : Int} {run : Ctx → Res Out} {dust : Account.Slot → Int × Int} (hu : UserIx op ai bi signer vault run dust) :
    ∃ (wi : WState) (a : AcctV) (b : WBank) (o : Out), w.before tx i = some wi ∧ wi.accts[ai]? = some a ∧ wi.banks[bi]? = some b ∧
      run (wi.ctx a b signer b.v.liquidityVault vault) = .ok o := by
  obtain ⟨wi, wi', hbef, hst⟩ := runTx_at h hi
  obtain ⟨a, b, o, ha, hb, ho⟩ := accepted_user hu (stepIn_accepted hst)
  exact ⟨wi, a, b, o, hbef, ha, hb, ho⟩

theorem tx_bankruptcy_ran {w w' : WState} {tx : List TOp} (h : w.runTx tx = some w')
    {i ai bi signer : Nat} {available : Int} (hi : tx[i]? = some (.ix (.bankruptcy ai bi signer available))) :
    ∃ (wi : WState) (a : AcctV) (b : WBank) (o : BkrOut), w.before tx i = some wi ∧ wi.accts[ai]? = some a ∧ wi.banks[bi]? = some b ∧
      bankruptcy (wi.ctx a b signer b.v.liquidityVault 0) available = .ok o := by
  obtain ⟨wi, wi', hbef, hst⟩ := runTx_at h hi
  cases stepIn_accepted hst with
  | user hu => cases hu
  | bankruptcy ha hb ho => exact ⟨wi, _, _, _, hbef, ha, hb, ho⟩

theorem tx_liquidate_ran {w w' : WState} {tx : List TOp} (h : w.runTx tx = some w')
    {i qi ei abi lbi signer : Nat} {amount : Int} (hi : tx[i]? = some (.ix (.liquidate qi ei abi lbi signer amount))) :
    ∃ (wi : WState) (lq le : AcctV) (ab lb : WBank) (o : LiqOutW), w.before tx i = some wi ∧ wi.accts[qi]? = some lq ∧ wi.accts[ei]? = some le ∧
      wi.banks[abi]? = some ab ∧ wi.banks[lbi]? = some lb ∧ liquidate (wi.liqCtx lq le ab lb signer) amount = .ok o := by
  obtain ⟨wi, wi', hbef, hst⟩ := runTx_at h hi
  cases stepIn_accepted hst with
  | user hu => cases hu
  | liquidate _ _ hq he hab hlb ho => exact ⟨wi, _, _, _, _, _, hbef, hq, he, hab, hlb, ho⟩

/-- an account in a flash loan at position `i` of a committed transaction has its own `end_flashloan` strictly further down
    (`Pending`), and that end ran its initial-margin check -/
theorem runTx_at_flash {w w' : WState} {tx : List TOp} (h : w.runTx tx = some w')
    (h0 : ∀ (k : Nat) (a : AcctV), w.accts[k]? = some a → inFlash a = false) {i : Nat} {t : TOp} (hi : tx[i]? = some t)
    (hne : ∀ k s, t ≠ .endFlash k s) :
    ∃ (wi wi' : WState), w.before tx i = some wi ∧ wi.stepIn tx i t = some wi' ∧
      ∀ (k : Nat) (a : AcctV), wi.accts[k]? = some a → inFlash a = true →
        ∃ (j s : Nat) (wj : WState) (a' : AcctV) (ps : List Risk.Pos), i < j ∧ tx[j]? = some (.endFlash k s) ∧ w.before tx j = some wj ∧
          wj.accts[k]? = some a' ∧ portfolio (wj.actx a' s) a'.slots noBank.books = .ok ps ∧ Risk.checkInitHealth ps = .ok () := by
  obtain ⟨wi, wi', hbi, hpi, hst⟩ :=
    (runTx_ind (I := Pending tx) (fun _ _ _ _ => stepIn_pending) h (fun k a hk hf => by rw [h0 k a hk] at hf; cases hf)).2 i t hi
  refine ⟨wi, wi', hbi, hst, fun k a ha hfa => ?_⟩
  obtain ⟨j, s, hij, hj⟩ := hpi k a ha hfa
  obtain ⟨wj, a', f, hbj, ha', hf⟩ := tx_endflash_ran h hj
  obtain ⟨_, _, _, _, _, ⟨ps, hps, hc⟩, _⟩ := endFlashloan_ok hf
  exact ⟨j, s, wj, a', ps, Nat.lt_of_le_of_ne hij (fun e => hne k s (Option.some.inj (hi.symm.trans (e ▸ hj)))), hj, hbj, ha', hps, hc⟩

end Mfi.World
