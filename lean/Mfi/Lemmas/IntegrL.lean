/- The exchange-rate arithmetic of the integration mocks (Mfi/Model/Integr.lean): a product with a whole number at scale 2^48 is
   exact; `get_scaled_balance` read backwards. -/
import Mfi.Model.Integr
import Mfi.Lemmas.FxL
import Mfi.Lemmas.ResL

namespace Mfi.Integr
open Mfi.Fx

theorem mulone_cancel (x c : Int) : x * ONE * c / ONE = x * c := by
  rw [Int.mul_assoc, Int.mul_comm ONE c, ← Int.mul_assoc]; exact Int.mul_ediv_cancel _ (by decide)

theorem mul?_whole {p r adj : Int} (h : mul? (p * ONE) r = some adj) : adj = p * r ∧ MIN ≤ p * r ∧ p * r ≤ MAX := by
  obtain ⟨e, b0, b1⟩ := mul?_some h
  rw [mulone_cancel] at e
  exact ⟨e, e ▸ b0, e ▸ b1⟩

/-- a floor at scale 2^48 followed by the floor back to whole units is one floor: the Kamino / Solend conversions return
    `⌊amount · supply / other supply⌋` -/
theorem floor_floor (x : Int) {c : Int} (hc : 0 < c) : x * ONE / c / ONE = x / c := by
  rw [Int.ediv_ediv_of_nonneg (Int.le_of_lt hc), Int.mul_ediv_mul_of_pos_left _ _ ONE_pos]

theorem l2c_eq_c2l (x L C : Int) : liquidityToCollateral x L C = collateralToLiquidity x C L := rfl

/-- `get_scaled_balance` up to the rounding (`cum` is a u128: non-negative) -/
theorem scaledBalance_some {d cum a s : Int} {up : Bool} (hcum : 0 ≤ cum) (h : scaledBalance d cum a up = some s) :
    ∃ p, precisionIncrease d = some p ∧ 0 < cum ∧ 0 ≤ a * p ∧
      (if (up && a * p / cum != 0) = true then chkU64 (a * p / cum + 1) else some (a * p / cum)) = some s := by
  unfold scaledBalance at h
  obtain ⟨p, hp, h⟩ := opt_bind_some h
  obtain ⟨m, hm, h⟩ := opt_bind_some h
  obtain ⟨m0, rfl⟩ := ite_some hm
  obtain ⟨hcz, h⟩ := opt_ite_none h
  obtain ⟨b, hb, h⟩ := opt_bind_some h
  obtain ⟨_, rfl⟩ := ite_some hb
  exact ⟨p, hp, by omega, m0.1, h⟩

end Mfi.Integr
