/-
  What an accepted instruction of the world machine does, in seven shapes (`Accepted`). The invariants of the machine are proved
  by cases on `Accepted` (`step_ind`), the first here: no instruction changes a bank's configuration (`step_bank_frame`);
  `WState.step` is unfolded only here.
-/
import Mfi.Model.WorldTx
import Mfi.Lemmas.TransferL
import Mfi.Lemmas.ListL
namespace Mfi.World
open Mfi Mfi.Fx Mfi.Gen Mfi.Gen.Acc

/-- the five user instructions as the machine runs them: the account and bank operated on, the signer, the vault balance shown,
    the instruction, and the shares of the position found that a success abandons in the bank totals -/
inductive UserIx : WOp → Nat → Nat → Nat → Int → (Ctx → Res Out) → (Account.Slot → Int × Int) → Prop
  | deposit (ai bi signer : Nat) (amount : Int) (upTo : Bool) :
      UserIx (.deposit ai bi signer amount upTo) ai bi signer 0 (fun c => deposit c amount upTo) (fun _ => (0, 0))
  | withdraw (ai bi signer : Nat) (amount : Int) (all : Bool) (vault : Int) :
      UserIx (.withdraw ai bi signer amount all vault) ai bi signer vault (fun c => withdraw c amount all) (fun s => (0, if all then s.l else 0))
  | borrow (ai bi signer : Nat) (amount : Int) :
      UserIx (.borrow ai bi signer amount) ai bi signer 0 (fun c => borrow c amount) (fun _ => (0, 0))
  | repay (ai bi signer : Nat) (amount : Int) (all : Bool) :
      UserIx (.repay ai bi signer amount all) ai bi signer 0 (fun c => repay c amount all) (fun s => (if all then s.a else 0, 0))
  | close (ai bi signer : Nat) : UserIx (.close ai bi signer) ai bi signer 0 (fun c => closeBalance c) (fun s => (s.a, s.l))

/-- `Accepted w op w'`: instruction `op` is accepted on `w` and leaves `w'` -/
inductive Accepted (w : WState) : WOp → WState → Prop
  | user {op : WOp} {ai bi signer : Nat} {vault : Int} {a : AcctV} {b : WBank} {run : Ctx → Res Out} {dust : Account.Slot → Int × Int} {o : Out}
      (hu : UserIx op ai bi signer vault run dust) (ha : w.accts[ai]? = some a) (hb : w.banks[bi]? = some b)
      (ho : run (w.ctx a b signer b.v.liquidityVault vault) = .ok o) :
      Accepted w op (w.commit ai bi a b o.slots a.flags o.books b.v.opState o.window (dust (slotOf a b.v.key)).1 (dust (slotOf a b.v.key)).2)
  | bankruptcy {ai bi signer : Nat} {available : Int} {a : AcctV} {b : WBank} {o : BkrOut}
      (ha : w.accts[ai]? = some a) (hb : w.banks[bi]? = some b)
      (ho : bankruptcy (w.ctx a b signer b.v.liquidityVault 0) available = .ok o) :
      Accepted w (.bankruptcy ai bi signer available) (w.commit ai bi a b o.slots o.flags o.books o.opState w.g.window 0 0)
  | liquidate {qi ei abi lbi signer : Nat} {amount : Int} {lq le : AcctV} {ab lb : WBank} {o : LiqOutW}
      (hqe : qi ≠ ei) (hbl : abi ≠ lbi) (hq : w.accts[qi]? = some lq) (he : w.accts[ei]? = some le)
      (hab : w.banks[abi]? = some ab) (hlb : w.banks[lbi]? = some lb)
      (ho : liquidate (w.liqCtx lq le ab lb signer) amount = .ok o) :
      Accepted w (.liquidate qi ei abi lbi signer amount) (w.commit2 qi ei abi lbi lq le ab lb o)
  | transfer {ai signer newKey newAuth : Nat} {ok : Bool} {a o n : AcctV}
      (hk : newKey ≠ 0) (hfresh : w.accts.any (fun x => x.key == newKey) = false) (ha : w.accts[ai]? = some a)
      (ho : transferIx w.g a signer newKey newAuth ok = .ok (o, n)) :
      Accepted w (.transfer ai signer newKey newAuth ok) { w with accts := w.accts.set ai o ++ [n] }
  | accrue {bi : Nat} {b : WBank} {books : Bank.Bank} (hb : w.banks[bi]? = some b) (ho : accrueIx (w.bctx b 0) = .ok books) :
      Accepted w (.accrue bi) (w.commitB bi b books)
  | collect {bi : Nat} {ok : Bool} {vault : Int} {b : WBank} {o : CollectOut} (hb : w.banks[bi]? = some b)
      (ho : collectFeesIx (w.bctx b vault) ok = .ok o) : Accepted w (.collect bi ok vault) (w.commitB bi b o.books)
  | tick (dt : Nat) : Accepted w (.tick dt) { w with now := w.now + dt }

/-- the five user instructions share the body `go` of both steps -/
theorem step_cases_user (w : WState) {op : WOp} {ai bi signer : Nat} {vault : Int} {run : Ctx → Res Out} {dust : Account.Slot → Int × Int}
    (hu : UserIx op ai bi signer vault run dust) :
    (w.step? op = none ∧ w.step op = w) ∨ ∃ w', w.step? op = some w' ∧ w.step op = w' ∧ Accepted w op w' := by
  have e? : w.step? op = match w.accts[ai]?, w.banks[bi]? with
      | some a, some b =>
        match run (w.ctx a b signer b.v.liquidityVault vault) with
        | .ok o => some (w.commit ai bi a b o.slots a.flags o.books b.v.opState o.window (dust (slotOf a b.v.key)).1 (dust (slotOf a b.v.key)).2)
        | .error _ => none
      | _, _ => none := by cases hu <;> rfl
  have e : w.step op = match w.accts[ai]?, w.banks[bi]? with
      | some a, some b =>
        match run (w.ctx a b signer b.v.liquidityVault vault) with
        | .ok o => w.commit ai bi a b o.slots a.flags o.books b.v.opState o.window (dust (slotOf a b.v.key)).1 (dust (slotOf a b.v.key)).2
        | .error _ => w
      | _, _ => w := by cases hu <;> rfl
  rw [e?, e]
  cases ha : w.accts[ai]? with
  | none => exact Or.inl ⟨rfl, rfl⟩
  | some a =>
  cases hb : w.banks[bi]? with
  | none => exact Or.inl ⟨rfl, rfl⟩
  | some b =>
  dsimp only
  cases ho : run (w.ctx a b signer b.v.liquidityVault vault) with
  | error e => exact Or.inl ⟨rfl, rfl⟩
  | ok o => exact Or.inr ⟨_, rfl, rfl, .user hu ha hb ho⟩

theorem step_cases (w : WState) (op : WOp) :
    (w.step? op = none ∧ w.step op = w) ∨ ∃ w', w.step? op = some w' ∧ w.step op = w' ∧ Accepted w op w' := by
  -- both steps branch on the same scrutinees: those are split, not the `match`es
  unfold WState.step? WState.step
  cases op with
  | deposit ai bi signer amount upTo => exact step_cases_user w (.deposit ai bi signer amount upTo)
  | withdraw ai bi signer amount all vault => exact step_cases_user w (.withdraw ai bi signer amount all vault)
  | borrow ai bi signer amount => exact step_cases_user w (.borrow ai bi signer amount)
  | repay ai bi signer amount all => exact step_cases_user w (.repay ai bi signer amount all)
  | close ai bi signer => exact step_cases_user w (.close ai bi signer)
  | bankruptcy ai bi signer available =>
    dsimp only
    cases ha : w.accts[ai]? with
    | none => exact Or.inl ⟨rfl, rfl⟩
    | some a =>
    cases hb : w.banks[bi]? with
    | none => exact Or.inl ⟨rfl, rfl⟩
    | some b =>
    dsimp only
    cases ho : bankruptcy (w.ctx a b signer b.v.liquidityVault 0) available with
    | error e => exact Or.inl ⟨rfl, rfl⟩
    | ok o => exact Or.inr ⟨_, rfl, rfl, .bankruptcy ha hb ho⟩
  | liquidate qi ei abi lbi signer amount =>
    dsimp only
    by_cases hne : qi = ei ∨ abi = lbi
    · rw [if_pos hne, if_pos hne]; exact Or.inl ⟨rfl, rfl⟩
    · rw [if_neg hne, if_neg hne]
      cases hq : w.accts[qi]? with
      | none => exact Or.inl ⟨rfl, rfl⟩
      | some lq =>
      cases he : w.accts[ei]? with
      | none => exact Or.inl ⟨rfl, rfl⟩
      | some le =>
      cases hab : w.banks[abi]? with
      | none => exact Or.inl ⟨rfl, rfl⟩
      | some ab =>
      cases hlb : w.banks[lbi]? with
      | none => exact Or.inl ⟨rfl, rfl⟩
      | some lb =>
      dsimp only
      cases ho : liquidate (w.liqCtx lq le ab lb signer) amount with
      | error e => exact Or.inl ⟨rfl, rfl⟩
      | ok o => exact Or.inr ⟨_, rfl, rfl, .liquidate (fun e => hne (Or.inl e)) (fun e => hne (Or.inr e)) hq he hab hlb ho⟩
  | transfer ai signer newKey newAuth ok =>
    dsimp only
    by_cases hne : newKey = 0 ∨ (w.accts.any fun x => x.key == newKey) = true
    · rw [if_pos hne, if_pos hne]; exact Or.inl ⟨rfl, rfl⟩
    · rw [if_neg hne, if_neg hne]
      cases ha : w.accts[ai]? with
      | none => exact Or.inl ⟨rfl, rfl⟩
      | some a =>
      dsimp only
      cases ho : transferIx w.g a signer newKey newAuth ok with
      | error e => exact Or.inl ⟨rfl, rfl⟩
      | ok on => exact Or.inr ⟨_, rfl, rfl, .transfer (fun e => hne (Or.inl e)) (Bool.of_not_eq_true fun e => hne (Or.inr e)) ha ho⟩
  | accrue bi =>
    dsimp only
    cases hb : w.banks[bi]? with
    | none => exact Or.inl ⟨rfl, rfl⟩
    | some b =>
    dsimp only
    cases ho : accrueIx (w.bctx b 0) with
    | error e => exact Or.inl ⟨rfl, rfl⟩
    | ok o => exact Or.inr ⟨_, rfl, rfl, .accrue hb ho⟩
  | collect bi ok vault =>
    dsimp only
    cases hb : w.banks[bi]? with
    | none => exact Or.inl ⟨rfl, rfl⟩
    | some b =>
    dsimp only
    cases ho : collectFeesIx (w.bctx b vault) ok with
    | error e => exact Or.inl ⟨rfl, rfl⟩
    | ok o => exact Or.inr ⟨_, rfl, rfl, .collect hb ho⟩
  | tick dt => exact Or.inr ⟨_, rfl, rfl, .tick dt⟩

theorem step?_accepted {w w' : WState} {op : WOp} (h : w.step? op = some w') : Accepted w op w' := by
  rcases step_cases w op with ⟨h0, _⟩ | ⟨w1, h1, _, ha⟩
  · rw [h0] at h; cases h
  · rw [h1] at h; cases h; exact ha

theorem step_getD (w : WState) (op : WOp) : w.step op = (w.step? op).getD w := by
  rcases step_cases w op with ⟨h0, h1⟩ | ⟨w1, h0, h1, _⟩ <;> rw [h0, h1] <;> rfl

theorem step_ind {P : WState → Prop} (w : WState) (op : WOp) (h0 : P w) (h1 : ∀ w', Accepted w op w' → P w') : P (w.step op) := by
  rcases step_cases w op with ⟨_, e⟩ | ⟨w', _, e, ha⟩
  · rw [e]; exact h0
  · rw [e]; exact h1 w' ha

theorem accepted_user {w w' : WState} {op : WOp} {ai bi signer : Nat} {vault : Int} {run : Ctx → Res Out} {dust : Account.Slot → Int × Int}
    (hu : UserIx op ai bi signer vault run dust) (h : Accepted w op w') :
    ∃ a b o, w.accts[ai]? = some a ∧ w.banks[bi]? = some b ∧ run (w.ctx a b signer b.v.liquidityVault vault) = .ok o := by
  cases hu <;> cases h with | user hu' ha hb ho => cases hu'; exact ⟨_, _, _, ha, hb, ho⟩

theorem UserIx.notPaused {op : WOp} {ai bi signer : Nat} {vault : Int} {run : Ctx → Res Out} {dust : Account.Slot → Int × Int}
    (hu : UserIx op ai bi signer vault run dust) {c : Ctx} {o : Out} (ho : run c = .ok o) : c.g.paused = false := by
  cases hu with
  | deposit => exact (deposit_ok ho).checks.1.notPaused
  | withdraw => exact (withdraw_ok ho).checks.1.notPaused
  | borrow => exact (borrow_ok ho).checks.1.notPaused
  | repay => exact (repay_ok ho).checks.1.notPaused
  | close => exact (close_ok ho).checks.notPaused

theorem accepted_paused {w w' : WState} {op : WOp} (h : Accepted w op w') (hp : w.g.paused = true) :
    (∃ bi b books, op = .accrue bi ∧ w.banks[bi]? = some b ∧ accrueIx (w.bctx b 0) = .ok books ∧ w' = w.commitB bi b books) ∨
    (∃ dt, op = .tick dt ∧ w' = { w with now := w.now + dt }) := by
  have no : ∀ {q : Prop}, w.g.paused = false → q := fun h => by rw [hp] at h; cases h
  cases h with
  | user hu ha hb ho => exact no (hu.notPaused ho)
  | bankruptcy ha hb ho => exact no (bankruptcy_ok ho).notPaused
  | liquidate hqe hbl hq he hab hlb ho => obtain ⟨t, k⟩ := liquidate_ok ho; exact no k.notPaused
  | transfer _ _ ha ho => exact no (transferIx_closed ho).notPaused
  | accrue hb ho => exact Or.inl ⟨_, _, _, rfl, hb, ho, rfl⟩
  | collect hb ho => exact no (collectFeesIx_spec ho).1
  | tick dt => exact Or.inr ⟨dt, rfl, rfl⟩

/-- what no instruction of the machine changes about a bank: its key, group, vault, rate configuration, fee and transfer-fee
    parameters, risk parameters and oracle; its operational state stays as it is or becomes KilledByBankruptcy -/
def SameCfg (x x' : WBank) : Prop :=
  x'.v.key = x.v.key ∧ x'.v.group = x.v.group ∧ x'.v.liquidityVault = x.v.liquidityVault ∧ x'.v.ir = x.v.ir ∧
  x'.v.origFee = x.v.origFee ∧ x'.v.tfBps = x.v.tfBps ∧ x'.v.tfMax = x.v.tfMax ∧ x'.v.weightInitZero = x.v.weightInitZero ∧
  x'.risk = x.risk ∧ x'.feed = x.feed ∧ (x'.v.opState = x.v.opState ∨ x'.v.opState = 3)

theorem sameCfg_refl (x : WBank) : SameCfg x x := ⟨rfl, rfl, rfl, rfl, rfl, rfl, rfl, rfl, rfl, rfl, Or.inl rfl⟩

/-- every bank keeps its place and is related by `R` to what it was -/
def BanksKeep (R : WBank → WBank → Prop) (w w' : WState) : Prop :=
  ∀ (j : Nat) (x : WBank), w.banks[j]? = some x → ∃ x', w'.banks[j]? = some x' ∧ R x x'

theorem BanksKeep.refl {R : WBank → WBank → Prop} (hR : ∀ x, R x x) (w : WState) : BanksKeep R w w := fun _ x hx => ⟨x, hx, hR x⟩

theorem BanksKeep.trans {R S T : WBank → WBank → Prop} (hR : ∀ x y z : WBank, R x y → S y z → T x z) {a b c : WState}
    (h1 : BanksKeep R a b) (h2 : BanksKeep S b c) : BanksKeep T a c := fun j x hx => by
  obtain ⟨y, hy, r1⟩ := h1 j x hx
  obtain ⟨z, hz, r2⟩ := h2 j y hy
  exact ⟨z, hz, hR x y z r1 r2⟩

theorem step_bank_frame (w : WState) (op : WOp) (j : Nat) (x : WBank) (hx : w.banks[j]? = some x) :
    ∃ x', (w.step op).banks[j]? = some x' ∧ SameCfg x x' := by
  have same : ∃ y, w.banks[j]? = some y ∧ SameCfg x y := ⟨x, hx, sameCfg_refl x⟩
  refine step_ind (P := fun w' => ∃ x', w'.banks[j]? = some x' ∧ SameCfg x x') w op same fun w' h => ?_
  -- a bank written back with the same configuration, at its place
  have one : ∀ {bs : List WBank}, (∃ y, bs[j]? = some y ∧ SameCfg x y) → ∀ (bi : Nat) {b : WBank} (b' : WBank),
      bs[bi]? = some b → (SameCfg x b → SameCfg x b') → ∃ x', (bs.set bi b')[j]? = some x' ∧ SameCfg x x' := by
    intro bs ⟨y, hy, hk⟩ bi b b' hb hb'
    rw [ListL.getElem?_set_of_some hb]
    by_cases h : bi = j
    · subst h; rw [hb] at hy; cases hy
      exact ⟨b', if_pos rfl, hb' hk⟩
    · exact ⟨y, by rw [if_neg h]; exact hy, hk⟩
  have books : ∀ {b : WBank} (bk : Bank.Bank), SameCfg x b → SameCfg x { b with v := { b.v with books := bk } } := fun _ h => h
  cases h with
  | user hu ha hb ho => exact one same _ _ hb (books _)
  | bankruptcy ha hb ho =>
    obtain ⟨_, _, _, st, _, _, _, _, _, _, rfl⟩ := (bankruptcy_ok ho).core
    refine one same _ _ hb fun ⟨h1, h2, h3, h4, h5, h6, h7, h8, h9, h10, h11⟩ => ⟨h1, h2, h3, h4, h5, h6, h7, h8, h9, h10, ?_⟩
    cases st.kill
    · exact h11
    · exact Or.inr rfl
  | @liquidate qi ei abi lbi signer amount lq le ab lb o hqe hbl hq he hab hlb ho =>
    exact one (one same _ _ hab (books _)) _ _ ((List.getElem?_set_ne hbl).trans hlb) (books _)
  | transfer _ _ ha ho => exact same
  | accrue hb ho => exact one same _ _ hb (books _)
  | collect hb ho => exact one same _ _ hb (books _)
  | tick dt => exact same

theorem sameCfg_trans {x y z : WBank} (h1 : SameCfg x y) (h2 : SameCfg y z) : SameCfg x z := by
  obtain ⟨a1, a2, a3, a4, a5, a6, a7, a8, a9, a10, a11⟩ := h1
  obtain ⟨b1, b2, b3, b4, b5, b6, b7, b8, b9, b10, b11⟩ := h2
  exact ⟨b1.trans a1, b2.trans a2, b3.trans a3, b4.trans a4, b5.trans a5, b6.trans a6, b7.trans a7, b8.trans a8, b9.trans a9, b10.trans a10,
    b11.elim (fun e => a11.imp (e.trans ·) (e.trans ·)) Or.inr⟩

theorem run_bank_frame : ∀ (ops : List WOp) (w : WState), BanksKeep SameCfg w (w.run ops)
  | [], w => BanksKeep.refl sameCfg_refl w
  | op :: ops, w => BanksKeep.trans @sameCfg_trans (step_bank_frame w op) (run_bank_frame ops (w.step op))

end Mfi.World
