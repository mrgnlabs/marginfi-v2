/- The I80F48 model (Mfi/Fx.lean): what each checked operation returns, and the floor / ceiling bounds every proof about
   share accounting needs; at the end, two facts about the bits of a flag word. Linarith and Positivity are loaded here for
   the files that import this one (WorldSolv adds Ring). -/
import Mfi.Fx
import Mathlib.Tactic.Linarith
import Mathlib.Tactic.Positivity

namespace Mfi

theorem ite_some {α : Type} {c : Prop} [Decidable c] {x y : α} (h : (if c then some x else none) = some y) : c ∧ x = y := by
  by_cases hc : c
  · rw [if_pos hc] at h; exact ⟨hc, Option.some.inj h⟩
  · rw [if_neg hc] at h; cases h

namespace Fx

theorem ONE_pos : (0 : Int) < ONE := by decide
theorem ONE_eq : ONE = 281474976710656 := rfl
theorem MIN_eq : MIN = -170141183460469231731687303715884105728 := rfl
theorem MAX_eq : MAX = 170141183460469231731687303715884105727 := rfl
theorem MIN_le_zero : MIN ≤ 0 := by decide

theorem inRange_iff (b : Int) : inRange b = true ↔ MIN ≤ b ∧ b ≤ MAX := by
  simp [inRange]

theorem chk_some {r : Int} (h : MIN ≤ r ∧ r ≤ MAX) : chk r = some r :=
  if_pos ((inRange_iff r).2 h)

theorem chk_eq_some {r c : Int} (h : chk r = some c) : c = r ∧ MIN ≤ c ∧ c ≤ MAX := by
  obtain ⟨hr, rfl⟩ := ite_some h
  exact ⟨rfl, (inRange_iff _).1 hr⟩

theorem add?_some {a b c : Int} (h : add? a b = some c) : c = a + b ∧ MIN ≤ c ∧ c ≤ MAX := chk_eq_some h

theorem add?_eq {a b : Int} (h0 : MIN ≤ a + b) (h1 : a + b ≤ MAX) : add? a b = some (a + b) :=
  chk_some ⟨h0, h1⟩

theorem sub?_some {a b c : Int} (h : sub? a b = some c) : c = a - b ∧ MIN ≤ c ∧ c ≤ MAX := chk_eq_some h

theorem mulfloor_le (x : Int) : x / ONE * ONE ≤ x := Int.ediv_mul_le x (by decide)
theorem mulfloor_gt (x : Int) : x < x / ONE * ONE + ONE := by
  have := Int.lt_ediv_add_one_mul_self x ONE_pos; rwa [Int.add_mul, Int.one_mul] at this

/-- the whole tokens in a value at scale 2^96 are worth at most the value -/
theorem mulfloor2_le (x : Int) : x / ONE / ONE * ONE * ONE ≤ x :=
  Int.le_trans (Int.mul_le_mul_of_nonneg_right (mulfloor_le _) (le_of_lt ONE_pos)) (mulfloor_le x)

theorem mulfloor_nonneg {a b : Int} (ha : 0 ≤ a) (hb : 0 ≤ b) : 0 ≤ a * b / ONE :=
  Int.ediv_nonneg (Int.mul_nonneg ha hb) (le_of_lt ONE_pos)

theorem mulfloor_add_le (a b : Int) : a / ONE + b / ONE ≤ (a + b) / ONE := by
  apply Int.le_ediv_of_mul_le ONE_pos
  rw [Int.add_mul]; exact Int.add_le_add (mulfloor_le a) (mulfloor_le b)

theorem ediv_mono_num {a b c : Int} (hc : 0 < c) (h : a ≤ b) : a / c ≤ b / c := Int.ediv_le_ediv hc h

theorem mul?_some {a b c : Int} (h : mul? a b = some c) : c = a * b / ONE ∧ MIN ≤ c ∧ c ≤ MAX := chk_eq_some h

theorem mul?_eq {a b : Int} (h0 : MIN ≤ a * b / ONE) (h1 : a * b / ONE ≤ MAX) :
    mul? a b = some (a * b / ONE) := chk_some ⟨h0, h1⟩

theorem mul?_floor {a b c : Int} (h : mul? a b = some c) : c * ONE ≤ a * b ∧ a * b < c * ONE + ONE := by
  rw [(mul?_some h).1]; exact ⟨mulfloor_le _, mulfloor_gt _⟩

theorem mul?_nonneg {a b c : Int} (ha : 0 ≤ a) (hb : 0 ≤ b) (h : mul? a b = some c) : 0 ≤ c := by
  rw [(mul?_some h).1]; exact mulfloor_nonneg ha hb

theorem mul?_mono {a b a' b' c c' : Int} (h : mul? a b = some c) (h' : mul? a' b' = some c') (ha : 0 ≤ a) (hb : 0 ≤ b)
    (haa : a ≤ a') (hbb : b ≤ b') : c ≤ c' := by
  rw [(mul?_some h).1, (mul?_some h').1]
  exact Int.ediv_le_ediv ONE_pos (Int.mul_le_mul haa hbb hb (Int.le_trans ha haa))

theorem mul?_comm (a b : Int) : mul? a b = mul? b a := by unfold mul?; rw [Int.mul_comm]

theorem mul?_ofInt {a n c : Int} (h : mul? a (ofInt n) = some c) : c = a * n := by
  rw [(mul?_some h).1, ofInt, ← Int.mul_assoc]; exact Int.mul_ediv_cancel _ (ne_of_gt ONE_pos)

theorem ofInt_mul? {a n c : Int} (h : mul? (ofInt n) a = some c) : c = n * a := by
  rw [mul?_comm] at h; rw [mul?_ofInt h, Int.mul_comm]

/-- `a` times a fraction `b / c` in [0, 1], rounded down -/
theorem mul_ediv_bounds {a b c : Int} (ha : 0 ≤ a) (hb : 0 ≤ b) (hbc : b ≤ c) (hc : 0 < c) : 0 ≤ a * b / c ∧ a * b / c ≤ a :=
  ⟨Int.ediv_nonneg (Int.mul_nonneg ha hb) (le_of_lt hc),
   calc a * b / c ≤ a * c / c := Int.ediv_le_ediv hc (Int.mul_le_mul_of_nonneg_left hbc ha)
     _ = a := Int.mul_ediv_cancel a (ne_of_gt hc)⟩

theorem frac_mul_bounds {d p : Int} (hd : 0 ≤ d) (hp0 : 0 ≤ p) (hp1 : p ≤ ONE) :
    0 ≤ d * p / ONE ∧ d * p / ONE ≤ d := mul_ediv_bounds hd hp0 hp1 ONE_pos

theorem mul?_frac {d p : Int} (hd0 : 0 ≤ d) (hd : d ≤ MAX) (hp0 : 0 ≤ p) (hp1 : p ≤ ONE) :
    mul? d p = some (d * p / ONE) := by
  have h := frac_mul_bounds hd0 hp0 hp1
  exact mul?_eq (Int.le_trans MIN_le_zero h.1) (Int.le_trans h.2 hd)

theorem div?_some {a b c : Int} (h : div? a b = some c) :
    b ≠ 0 ∧ c = Int.tdiv (a * ONE) b ∧ MIN ≤ c ∧ c ≤ MAX := by
  unfold div? at h
  by_cases hb : b = 0
  · rw [if_pos hb] at h; cases h
  · rw [if_neg hb] at h; exact ⟨hb, chk_eq_some h⟩

/-- the shares a value `v` buys at share value `sv`: what `div? v sv` returns (and 0 at `sv = 0`, as `get_asset_shares` does) -/
def sharesOf (v sv : Int) : Int := Int.tdiv (v * ONE) sv

theorem div?_sharesOf {v sv s : Int} (h : div? v sv = some s) : s = sharesOf v sv := (div?_some h).2.1

theorem sharesOf_sv_zero (v : Int) : sharesOf v 0 = 0 := Int.tdiv_zero _

theorem sharesOf_zero (sv : Int) : sharesOf 0 sv = 0 := by unfold sharesOf; rw [Int.zero_mul, Int.zero_tdiv]

theorem sharesOf_eq {v sv : Int} (hv : 0 ≤ v) : sharesOf v sv = v * ONE / sv :=
  Int.tdiv_eq_ediv_of_nonneg (Int.mul_nonneg hv (le_of_lt ONE_pos))

theorem div?_ediv {a b c : Int} (ha : 0 ≤ a) (h : div? a b = some c) : c = a * ONE / b :=
  (div?_sharesOf h).trans (sharesOf_eq ha)

theorem div?_ofInt {a n c : Int} (ha : 0 ≤ a) (h : div? a (ofInt n) = some c) : c = a / n := by
  rw [div?_ediv ha h, ofInt, Int.mul_ediv_mul_of_pos_left _ _ ONE_pos]

theorem sharesOf_nonneg {v sv : Int} (hv : 0 ≤ v) (hsv : 0 ≤ sv) : 0 ≤ sharesOf v sv := by
  rw [sharesOf_eq hv]; exact Int.ediv_nonneg (Int.mul_nonneg hv (le_of_lt ONE_pos)) hsv

theorem sharesOf_mono {v v' sv : Int} (hv : 0 ≤ v) (hvv : v ≤ v') (hsv : 0 < sv) : sharesOf v sv ≤ sharesOf v' sv := by
  rw [sharesOf_eq hv, sharesOf_eq (Int.le_trans hv hvv)]
  exact Int.ediv_le_ediv hsv (Int.mul_le_mul_of_nonneg_right hvv (Int.le_of_lt ONE_pos))

theorem sharesOf_mul_le {v sv : Int} (hv : 0 ≤ v) (hsv : 0 ≤ sv) : sharesOf v sv * sv ≤ v * ONE := by
  rw [sharesOf_eq hv]
  rcases Int.lt_or_eq_of_le hsv with h | h
  · exact Int.ediv_mul_le _ (ne_of_gt h)
  · rw [← h, Int.mul_zero]; exact Int.mul_nonneg hv (le_of_lt ONE_pos)

theorem lt_sharesOf_mul {v sv : Int} (hv : 0 ≤ v) (hsv : 0 < sv) : v * ONE < sharesOf v sv * sv + sv := by
  rw [sharesOf_eq hv]
  have := Int.lt_ediv_add_one_mul_self (v * ONE) hsv
  rwa [Int.add_mul, Int.one_mul] at this

/-- the counterpart of `mul?_floor`: a checked division rounds down by less than one ulp -/
theorem div?_floor {a b c : Int} (ha : 0 ≤ a) (hb : 0 < b) (h : div? a b = some c) :
    0 ≤ c ∧ c * b ≤ a * ONE ∧ a * ONE < c * b + b := by
  obtain rfl := div?_sharesOf h
  exact ⟨sharesOf_nonneg ha (le_of_lt hb), sharesOf_mul_le ha (le_of_lt hb), lt_sharesOf_mul ha hb⟩

theorem max_sub_add_min (δ c : Int) : max (δ - c) 0 + min c δ = δ := by omega

/-- a value `δ` of which `min c δ` is booked at one share value and the rest, `max (δ − c) 0`, at another: an increase pays
    off the debt `c` first, a decrease draws on the deposit `c` first -/
theorem booked_le {δ c sv sv' : Int} (hδ : 0 ≤ δ) (hc : 0 ≤ c) (h : 0 ≤ sv) (h' : 0 ≤ sv') :
    sharesOf (max (δ - c) 0) sv * sv + sharesOf (min c δ) sv' * sv' ≤ δ * ONE :=
  calc _ ≤ max (δ - c) 0 * ONE + min c δ * ONE :=
        Int.add_le_add (sharesOf_mul_le (Int.le_max_right _ _) h) (sharesOf_mul_le (Int.le_min.2 ⟨hc, hδ⟩) h')
    _ = δ * ONE := by rw [← Int.add_mul, max_sub_add_min]

theorem lt_booked {δ c sv sv' : Int} (hδ : 0 ≤ δ) (hc : 0 ≤ c) (h : 0 < sv) (h' : 0 < sv') :
    δ * ONE < sharesOf (max (δ - c) 0) sv * sv + sharesOf (min c δ) sv' * sv' + (sv + sv') :=
  calc δ * ONE = max (δ - c) 0 * ONE + min c δ * ONE := by rw [← Int.add_mul, max_sub_add_min]
    _ < _ := by
      have h1 := lt_sharesOf_mul (v := max (δ - c) 0) (Int.le_max_right _ _) h
      have h2 := lt_sharesOf_mul (v := min c δ) (Int.le_min.2 ⟨hc, hδ⟩) h'
      omega

/-- shares → amount → shares: the shares that (part of) the amount of `s` shares buys back are at most `s` … -/
theorem sharesOf_amount_le {s sv v : Int} (hsv : 0 < sv) (hv0 : 0 ≤ v) (hv : v ≤ s * sv / ONE) : sharesOf v sv ≤ s := by
  have h1 := sharesOf_mul_le hv0 (le_of_lt hsv)
  have h2 : v * ONE ≤ s * sv := Int.le_trans (Int.mul_le_mul_of_nonneg_right hv (le_of_lt ONE_pos)) (mulfloor_le _)
  exact Int.le_of_mul_le_mul_right (Int.le_trans h1 h2) hsv

/-- … and what the whole amount fails to buy back is worth less than one share plus one ulp of value -/
theorem sharesOf_amount_residue {s sv : Int} (hs : 0 ≤ s) (hsv : 0 < sv) :
    (s - sharesOf (s * sv / ONE) sv) * sv < sv + ONE := by
  have h1 := lt_sharesOf_mul (mulfloor_nonneg hs (le_of_lt hsv)) hsv
  have h2 := mulfloor_gt (s * sv)
  rw [Int.sub_mul]; omega

/-- the split of `booked_le` when `c` is what `s` shares are worth: the part booked at `sv` is no negative number of shares, and the
    part booked at `sv'` is at most the `s` shares it is taken from -/
theorem booked_shares {δ s sv sv' : Int} (hδ : 0 ≤ δ) (hs : 0 ≤ s) (h : 0 ≤ sv) (h' : 0 < sv') :
    0 ≤ sharesOf (max (δ - s * sv' / ONE) 0) sv ∧ sharesOf (min (s * sv' / ONE) δ) sv' ≤ s :=
  ⟨sharesOf_nonneg (Int.le_max_right _ _) h,
   sharesOf_amount_le h' (Int.le_min.2 ⟨mulfloor_nonneg hs (le_of_lt h'), hδ⟩) (Int.min_le_left _ _)⟩

theorem prop_bounds {off dx : Int} (h0 : 0 ≤ off) (h1 : off ≤ dx) (hdx : 0 < dx) :
    0 ≤ off * ONE / dx ∧ off * ONE / dx ≤ ONE :=
  Int.mul_comm off ONE ▸ mul_ediv_bounds (le_of_lt ONE_pos) h0 h1 hdx

theorem div?_prop {off dx : Int} (h0 : 0 ≤ off) (h1 : off ≤ dx) (hdx : 0 < dx) :
    div? off dx = some (off * ONE / dx) := by
  have h := prop_bounds h0 h1 hdx
  unfold div?
  rw [if_neg (Int.ne_of_gt hdx), Int.tdiv_eq_ediv_of_nonneg (Int.mul_nonneg h0 (Int.le_of_lt ONE_pos))]
  exact chk_some ⟨Int.le_trans MIN_le_zero h.1, Int.le_trans h.2 (by decide)⟩

theorem floor_ediv (a : Int) : floor a / ONE = a / ONE := Int.mul_ediv_cancel _ (ne_of_gt ONE_pos)

/-- `-(-a / 2^48)` is the least `k` with `a ≤ k·2^48` -/
theorem ceil_bounds (a : Int) : a ≤ -(-a / ONE) * ONE ∧ -(-a / ONE) * ONE < a + ONE := by
  have h1 := mulfloor_le (-a)
  have h2 := mulfloor_gt (-a)
  rw [Int.neg_mul]; omega

theorem ceil?_some {a c : Int} (h : ceil? a = some c) :
    c = -(-a / ONE) * ONE ∧ a ≤ -(-a / ONE) * ONE ∧ -(-a / ONE) * ONE < a + ONE :=
  ⟨(chk_eq_some h).1, ceil_bounds a⟩

theorem toU64?_some {a n : Int} (h : toU64? a = some n) : n = a / ONE ∧ 0 ≤ n ∧ n ≤ U64MAX :=
  (ite_some h).2 ▸ ⟨rfl, (ite_some h).1⟩

theorem toU64?_floor {a n : Int} (h : toU64? (floor a) = some n) : n = a / ONE ∧ 0 ≤ n ∧ n ≤ U64MAX :=
  floor_ediv a ▸ toU64?_some h

/-- one bucket of a fee collection (`Bank.collectFees`): the whole tokens `k` in min(bucket, liquidity) leave both -/
theorem bucket_ok {f a f' a' k : Int} (hk : toU64? (Fx.int (min f a)) = some k) (hf : sub? f (Fx.int (min f a)) = some f')
    (ha : sub? a (Fx.int (min f a)) = some a') : k = min f a / ONE ∧ 0 ≤ k ∧ f' = f - k * ONE ∧ a' = a - k * ONE := by
  obtain ⟨e, k0, _⟩ := toU64?_floor hk
  have hm : Fx.int (min f a) = k * ONE := by rw [e]; rfl
  exact ⟨e, k0, hm ▸ (sub?_some hf).1, hm ▸ (sub?_some ha).1⟩

theorem toU64?_ceil {a c n : Int} (hc : ceil? a = some c) (h : toU64? c = some n) : n = -(-a / ONE) ∧ 0 ≤ n ∧ n ≤ U64MAX := by
  have e : c / ONE = -(-a / ONE) := by rw [(ceil?_some hc).1]; exact Int.mul_ediv_cancel _ (ne_of_gt ONE_pos)
  exact e ▸ toU64?_some h

theorem wrap_id {r : Int} (h0 : MIN ≤ r) (h1 : r ≤ MAX) : wrap r = r := by
  unfold wrap
  rw [MIN_eq] at h0; rw [MAX_eq] at h1 ⊢
  by_cases hr : 0 ≤ r
  · rw [Int.emod_eq_of_lt hr (by omega)]; exact if_neg (by omega)
  · -- a negative value is its own two's complement, `r + 2^128`, which is above `MAX`
    have e : r % 2 ^ 128 = r + 2 ^ 128 := by
      rw [← Int.add_mul_emod_self_left r (2 ^ 128) 1, Int.mul_one]
      exact Int.emod_eq_of_lt (by omega) (by omega)
    rw [e]; exact (if_pos (by omega)).trans (by omega)

theorem POW10FX_pos {i : Nat} {e : Int} (h : POW10FX[i]? = some e) : 0 < e := by
  have : ∀ y ∈ POW10FX, 0 < y := by decide
  exact this e (List.mem_of_getElem? h)

end Fx

/-! The flag words of accounts and banks are `Nat`s read and written bit by bit (`World.hasFlag`, `Admin.setBit`): two facts
    about `Nat` bits that both use. -/
theorem and_two_pow_ite (f k : Nat) : f &&& 2 ^ k = if f.testBit k then 2 ^ k else 0 := by
  apply Nat.eq_of_testBit_eq
  intro i
  rw [Nat.testBit_and, Nat.testBit_two_pow]
  by_cases hi : k = i
  · subst hi; cases h : f.testBit k <;> simp
  · cases h : f.testBit k <;> simp [hi]

/-- `b xor (2^64 - 1)`, the model's `!b` on a 64-bit word -/
theorem testBit_not64 (b : Nat) {i : Nat} (hi : i < 64) : (Nat.xor b (2 ^ 64 - 1)).testBit i = !b.testBit i := by
  rw [show Nat.xor b (2 ^ 64 - 1) = b ^^^ (2 ^ 64 - 1) from rfl, Nat.testBit_xor, Nat.testBit_two_pow_sub_one, decide_eq_true hi,
    Bool.xor_true]

end Mfi
