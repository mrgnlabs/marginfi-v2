/-
  One characterisation `*_ok` of each whole instruction of `Mfi/Model/World.lean` (what a success went through, stage by stage,
  and what it left) and one `*Core_spec` of each of the four cores the user instructions call. For the two cranks the full
  characterisations are `accrueIx_spec` and `collectFeesIx_spec`; `accrueIx_ok` and `collectFeesIx_ok` (WorldLedger) are weaker
  corollaries of them. Before them, what they are built from: a flag word read bit by bit (`hasFlag_*`), and the account checks of an
  instruction read row by row off the regenerated table (`runChecks_row`, `Entitled`, the `*_checks`).
-/
import Mfi.Model.World
import Mfi.Lemmas.ResL
import Mfi.Lemmas.AccountL
import Mfi.Lemmas.FxL
namespace Mfi.World
open Mfi Mfi.Fx Mfi.Gen Mfi.Gen.Acc

theorem hasFlag_bit {bit : Int} {k : Nat} (h : bit.toNat = 2 ^ k) (f : Nat) : hasFlag f bit = f.testBit k := by
  unfold hasFlag
  rw [h, and_two_pow_ite]
  cases f.testBit k
  · simpa using Nat.ne_of_lt (Nat.two_pow_pos k)
  · simp

/-- the instructions set a flag by `f ||| bit` and clear it by `f &&& (bit xor (2^64 - 1))` (a transfer rebuilds the word: TransferL) -/
theorem hasFlag_or {b c : Int} {j k : Nat} (hb : b.toNat = 2 ^ j) (hc : c.toNat = 2 ^ k) (f : Nat) :
    hasFlag (f ||| b.toNat) c = (hasFlag f c || decide (j = k)) := by
  rw [hasFlag_bit hc, hasFlag_bit hc, hb, Nat.testBit_or, Nat.testBit_two_pow]

theorem hasFlag_clear {b c : Int} {j k : Nat} (hb : b.toNat = 2 ^ j) (hc : c.toNat = 2 ^ k) (hk : k < 64) (f : Nat) :
    hasFlag (f &&& Nat.xor b.toNat (2 ^ 64 - 1)) c = (hasFlag f c && !decide (j = k)) := by
  rw [hasFlag_bit hc, hasFlag_bit hc, hb, Nat.testBit_and, testBit_not64 _ hk, Nat.testBit_two_pow]

theorem DISABLED_bit : ACCOUNT_DISABLED.toNat = 2 ^ 0 := by decide
theorem FLASH_bit : ACCOUNT_IN_FLASHLOAN.toNat = 2 ^ 1 := by decide
theorem RECV_bit : ACCOUNT_IN_RECEIVERSHIP.toNat = 2 ^ 4 := by decide
theorem DELEV_bit : ACCOUNT_IN_DELEVERAGE.toNat = 2 ^ 5 := by decide

/-! ### the account checks

A single row of a table that passed is read by `runChecks_row h _ (by decide)`; a table of which most rows are needed is
interpreted at once: `have r := runChecks_row h`, `simp only [checks, …] at r` to list its rows, `simp [evalChk, …] at r` to evaluate
them in the instruction's environment (one `simp` for both steps would unfold `checks` for every instruction). -/

theorem runChecks_row {env : Env} : ∀ {l : List (Chk × Nat)}, runChecks env l = .ok () → ∀ r ∈ l.map (·.1), evalChk env r = some true
  | [], _, r, hr => by cases hr
  | (c, e) :: rest, h, r, hr => by
    unfold runChecks at h
    split at h
    · rename_i ht
      rcases List.mem_cons.1 hr with rfl | hr
      · exact ht
      · exact runChecks_row h r hr
    · cases h
    · cases h

theorem runChecks_head_fails {env : Env} {c : Chk} {e : Nat} {rest : List (Chk × Nat)} (h : evalChk env c = some false) :
    runChecks env ((c, e) :: rest) = .error (.err e) := by
  simp [runChecks, h]

/-- what the account checks shared by the five user instructions establish (regenerated table, interpreted) -/
structure Entitled (c : Ctx) (allowReceivership : Bool) : Prop where
  notPaused : c.g.paused = false
  acctGroup : c.a.group = c.g.key
  notFrozen : Auth.notFrozenForAuthority (acctView c.a.authority c.a.flags) c.signer = true
  signer : Auth.isSignerAuthorized (acctView c.a.authority c.a.flags) c.g.admin c.signer allowReceivership = true
  bankGroup : c.b.group = c.g.key
  ownTag : tagIs .marginfi c.b.books.assetTag = true

/-- the six rows every user instruction's table shares (the signer rule with or without the receivership path) -/
def entitledRows (allow : Bool) : List Chk :=
  [.cons .f_group (.notPaused .f_group), .hasOne .f_marginfi_account .f_group,
   .cons .f_marginfi_account (.notFrozen .f_marginfi_account .f_authority),
   .cons .f_marginfi_account (.signerAuth .f_marginfi_account .f_authority allow),
   .hasOne .f_bank .f_group, .cons .f_bank (.assetTag .marginfi .f_bank)]

theorem entitled_of_rows {c : Ctx} {allow : Bool} {l : List (Chk × Nat)} (h : runChecks c.env l = .ok ())
    (hl : ∀ r ∈ entitledRows allow, r ∈ l.map (·.1)) : Entitled c allow := by
  have row : ∀ r ∈ entitledRows allow, evalChk c.env r = some true := fun r hr => runChecks_row h r (hl r hr)
  simp only [entitledRows, List.forall_mem_cons, List.not_mem_nil, false_imp_iff, implies_true, and_true] at row
  simp [evalChk, Ctx.env, AccV.key] at row
  obtain ⟨r1, r2, r3, r4, r5, r6⟩ := row
  exact ⟨r1, r2, r3, r4, r5, r6⟩

theorem vault_row {c : Ctx} {l : List (Chk × Nat)} (h : runChecks c.env l = .ok ())
    (hl : Chk.hasOne .f_bank .f_liquidity_vault ∈ l.map (·.1)) : c.b.liquidityVault = c.vaultKey := by
  simpa [evalChk, Ctx.env] using runChecks_row h _ hl

theorem bankFlagClear_row {c : Ctx} {l : List (Chk × Nat)} {e : F} {f : Fl} {bit : Int} (h : runChecks c.env l = .ok ())
    (hl : Chk.cons e (.flagClear .f_bank f) ∈ l.map (·.1)) (hb : flBit f = some bit) : hasFlag c.b.books.flags bit = false := by
  simpa [evalChk, Ctx.env, flagsOf, hb] using runChecks_row h _ hl

theorem authority_row {c : Ctx} {l : List (Chk × Nat)} (h : runChecks c.env l = .ok ())
    (hl : Chk.hasOne .f_marginfi_account .f_authority ∈ l.map (·.1)) : c.a.authority = c.signer := by
  simpa [evalChk, Ctx.env] using runChecks_row h _ hl

theorem deposit_checks {c : Ctx} (h : runChecks c.env (checks .LendingAccountDeposit) = .ok ()) :
    Entitled c false ∧ c.b.liquidityVault = c.vaultKey ∧ hasFlag c.b.books.flags TOKENLESS_REPAYMENTS_ALLOWED = false :=
  ⟨entitled_of_rows h (by decide), vault_row h (by decide), bankFlagClear_row h (f := .fl_TOKENLESS_REPAYMENTS_ALLOWED) (e := .f_bank) (by decide) rfl⟩

theorem borrow_checks {c : Ctx} (h : runChecks c.env (checks .LendingAccountBorrow) = .ok ()) :
    Entitled c false ∧ c.b.liquidityVault = c.vaultKey ∧ hasFlag c.b.books.flags TOKENLESS_REPAYMENTS_ALLOWED = false :=
  ⟨entitled_of_rows h (by decide), vault_row h (by decide), bankFlagClear_row h (f := .fl_TOKENLESS_REPAYMENTS_ALLOWED) (e := .f_bank) (by decide) rfl⟩

theorem withdraw_checks {c : Ctx} (h : runChecks c.env (checks .LendingAccountWithdraw) = .ok ()) :
    Entitled c true ∧ c.b.liquidityVault = c.vaultKey ∧
    (hasFlag c.a.flags ACCOUNT_IN_RECEIVERSHIP = false ∨ c.b.weightInitZero = false) :=
  ⟨entitled_of_rows h (by decide), vault_row h (by decide), by
    simpa [evalChk, Ctx.env] using runChecks_row h (.cons .f_bank (.zeroWeightRecv .f_marginfi_account .f_bank)) (by decide)⟩

theorem repay_checks {c : Ctx} (h : runChecks c.env (checks .LendingAccountRepay) = .ok ()) :
    Entitled c true ∧ c.b.liquidityVault = c.vaultKey :=
  ⟨entitled_of_rows h (by decide), vault_row h (by decide)⟩

theorem close_checks {c : Ctx} (h : runChecks c.env (checks .LendingAccountCloseBalance) = .ok ()) : Entitled c false :=
  entitled_of_rows h (by decide)

/-- the pause is the first row of all five tables: a paused group answers `ProtocolPaused`, whatever else is wrong -/
theorem paused_first (c : Ctx) (hp : c.g.paused = true) :
    ∀ s ∈ [S.LendingAccountDeposit, .LendingAccountWithdraw, .LendingAccountBorrow, .LendingAccountRepay, .LendingAccountCloseBalance],
      runChecks c.env (checks s) = .error (.err E.ProtocolPaused) := by
  have row : evalChk c.env (.cons .f_group (.notPaused .f_group)) = some false := by simp [evalChk, Ctx.env, hp]
  intro s hs
  simp only [List.mem_cons, List.not_mem_nil, or_false] at hs
  rcases hs with rfl | rfl | rfl | rfl | rfl <;> exact runChecks_head_fails row

theorem stateOf_ok {opState : Int} {k : Gate.Kind} (h : stateOf opState k = .ok ()) :
    ∃ s, Gate.OpState.ofInt opState = some s ∧ Gate.validateBankState s k = none := by
  unfold stateOf at h
  split at h
  · cases h
  · rename_i s hs
    split at h
    · rename_i hv; exact ⟨s, hs, hv⟩
    · cases h

/-- `bankState c k` is `stateOf c.b.opState k`, written out again in the model -/
theorem bankState_ok {c : Ctx} {k : Gate.Kind} (h : bankState c k = .ok ()) :
    ∃ s, Gate.OpState.ofInt c.b.opState = some s ∧ Gate.validateBankState s k = none :=
  stateOf_ok (opState := c.b.opState) h

theorem balAt_ok {slots : List Account.Slot} {i : Nat} {x : Bank.Balance} (h : balAt slots i = .ok x) :
    ∃ s, slots[i]? = some s ∧ x = toBal s := by
  unfold balAt at h
  split at h
  · rename_i s hs; injection h with h; exact ⟨s, hs, h.symm⟩
  · cases h

theorem findSlot_ok {c : Ctx} {i : Nat} {s : Account.Slot} (h : findSlot c = .ok (i, s)) :
    c.a.slots[i]? = some s ∧ s.active = true ∧ s.bank = c.b.key := by
  unfold findSlot at h
  revert h
  cases hj : Account.findIdx c.a.slots c.b.key with
  | none => intro h; cases h
  | some j =>
    obtain ⟨x, hx, hact, hbank⟩ := Account.findIdx_some hj
    dsimp only
    rw [hx]
    intro h
    cases h
    exact ⟨hx, hact, hbank⟩

theorem slotOf_found {c : Ctx} {i : Nat} {s : Account.Slot} (h : findSlot c = .ok (i, s)) : slotOf c.a c.b.key = s := by
  unfold findSlot at h
  unfold slotOf
  revert h
  cases Account.findIdx c.a.slots c.b.key with
  | none => intro h; cases h
  | some j =>
    dsimp only
    cases c.a.slots[j]? with
    | none => intro h; cases h
    | some s' => intro h; cases h; rfl

/-! ### the four cores: the body of a user instruction between the slot lookup and the health check -/

theorem depositCore_spec {e : Ix.Env} {b b' : Bank.Bank} {bal x' : Option Bank.Balance} {amt t : Int}
    (h : Ix.depositCore e b bal amt = .ok (b', x', t)) :
    ∃ x2, Bank.increaseBalance b (bal.getD (Ix.freshBalance b e.now)) e.now (Fx.ofInt amt) .depositOnly = .ok (b', x2) ∧
      x' = some x2 ∧ Ix.preFeeAmt e amt = .ok t := by
  unfold Ix.depositCore at h
  apply Res.bind_elim h; clear h; rintro ⟨b2, x2⟩ hr h
  apply Res.bind_elim h; clear h; intro pre hpre h
  cases h
  exact ⟨x2, hr, rfl, hpre⟩

theorem satAdd_le {a b : Int} (ha : 0 ≤ a) (hb : 0 ≤ b) : 0 ≤ Ix.satAdd a b ∧ Ix.satAdd a b ≤ a + b := by
  unfold Ix.satAdd
  have h1 := MAX_eq
  have h2 := MIN_eq
  dsimp only
  split
  · omega
  · split
    · omega
    · omega

theorem satSub_eq {a b : Int} (hb : 0 ≤ b) (hba : b ≤ a) (ha : a ≤ Fx.MAX) : Ix.satSub a b = a - b := by
  unfold Ix.satSub
  have h2 := MIN_eq
  dsimp only
  split
  · omega
  · split
    · omega
    · rfl

/-- the position is debited by the pre-fee amount `t` (paid out) plus the origination fee `⌊t·2^48·origFee⌋`, and the fee goes to
    the group / program fee buckets; these additions saturate, so the buckets gain AT MOST the fee -/
theorem borrowCore_spec {e : Ix.Env} {b b' : Bank.Bank} {x x' : Bank.Balance} {amount t : Int}
    (h : borrowCore e b x amount = .ok (b', x', t)) :
    ∃ (fee : Int) (b2 : Bank.Bank) (g p : Int), Ix.preFeeAmt e amount = .ok t ∧ fee = Fx.ofInt t * e.origFee / ONE ∧
      Bank.decreaseBalance b x e.now (Fx.ofInt t + fee) .borrowOnly = .ok (b2, x') ∧ b' = { b2 with feeG := g, feeP := p } ∧
      (0 ≤ fee → 0 ≤ e.progFeeRate → e.progFeeRate ≤ ONE → 0 ≤ b2.feeG → 0 ≤ b2.feeP →
        0 ≤ g ∧ 0 ≤ p ∧ g + p ≤ b2.feeG + b2.feeP + fee) := by
  unfold borrowCore at h
  apply Res.bind_elim h; clear h; intro pre hpre h
  by_cases ho : e.origFee ≠ 0
  · rw [if_pos ho] at h
    apply Res.bind_elim h; clear h; intro fee hfee h
    apply Res.bind_elim h; clear h; intro _ _ h
    apply Res.bind_elim h; clear h; intro tot htot h
    apply Res.bind_elim h; clear h; rintro ⟨b2, x2⟩ hd h
    dsimp only at h
    obtain ⟨efee, _, hfeeMax⟩ := mul?_some (Bank.math_ok hfee)
    rw [(Res.inRange_ok htot).1] at hd
    by_cases hf0 : fee = 0
    · rw [if_pos hf0] at h
      cases h
      exact ⟨fee, _, _, _, hpre, efee, hd, rfl, fun hfee0 _ _ g0 p0 => ⟨g0, p0, by omega⟩⟩
    · rw [if_neg hf0] at h
      by_cases hp : e.progFeeRate ≠ 0
      · rw [if_pos hp] at h
        apply Res.bind_elim h; clear h; intro pf hpf h
        cases h
        refine ⟨fee, _, _, _, hpre, efee, hd, rfl, fun hfee0 r0 r1 g0 p0 => ?_⟩
        obtain ⟨epf, _, _⟩ := mul?_some (Bank.math_ok hpf)
        obtain ⟨q0, q1⟩ := frac_mul_bounds hfee0 r0 r1
        rw [← epf] at q0 q1
        have es := satSub_eq q0 q1 hfeeMax
        obtain ⟨a0, a1⟩ := satAdd_le g0 (by rw [es]; omega : 0 ≤ Ix.satSub fee pf)
        obtain ⟨c0, c1⟩ := satAdd_le p0 q0
        exact ⟨a0, c0, by omega⟩
      · rw [if_neg hp] at h
        cases h
        refine ⟨fee, _, _, _, hpre, efee, hd, rfl, fun hfee0 _ _ g0 p0 => ?_⟩
        obtain ⟨a0, a1⟩ := satAdd_le g0 hfee0
        exact ⟨a0, p0, by omega⟩
  · rw [if_neg ho] at h
    apply Res.bind_elim h; clear h; rintro ⟨b2, x2⟩ hd h
    cases h
    have ho' : e.origFee = 0 := by omega
    exact ⟨0, _, _, _, hpre, by rw [ho', Int.mul_zero, Int.zero_ediv], by rw [Int.add_zero]; exact hd, rfl,
      fun _ _ _ g0 p0 => ⟨g0, p0, by omega⟩⟩

theorem withdrawCore_spec {c : Ctx} {b b' : Bank.Bank} {x x' : Bank.Balance} {amount t : Int} {all : Bool}
    (h : withdrawCore c b x amount all = .ok (b', x', t)) :
    (all = true ∧ Bank.withdrawAll b x c.now = .ok (b', x', t)) ∨
    (all = false ∧ Ix.preFeeAmt c.ixEnv amount = .ok t ∧ Bank.decreaseBalance b x c.now (Fx.ofInt t) .withdrawOnly = .ok (b', x')) := by
  unfold withdrawCore at h
  cases all with
  | true => exact Or.inl ⟨rfl, h⟩
  | false =>
    rw [if_neg Bool.false_ne_true] at h
    apply Res.bind_elim h; clear h; intro p hpre h
    apply Res.bind_elim h; clear h; rintro ⟨b2, x2⟩ hd h
    cases h
    exact Or.inr ⟨rfl, hpre, hd⟩

theorem repayCore_spec {c : Ctx} {b b' : Bank.Bank} {x x' : Bank.Balance} {amount t : Int} {all : Bool}
    (h : repayCore c b x amount all = .ok (b', x', t)) :
    (all = true ∧ Bank.repayAll b x c.now = .ok (b', x', t)) ∨
    (all = false ∧ t = amount ∧ Bank.increaseBalance b x c.now (Fx.ofInt amount) .repayOnly = .ok (b', x')) := by
  unfold repayCore at h
  cases all with
  | true => exact Or.inl ⟨rfl, h⟩
  | false =>
    rw [if_neg Bool.false_ne_true] at h
    apply Res.bind_elim h; clear h; rintro ⟨b2, x2⟩ hd h
    cases h
    exact Or.inr ⟨rfl, rfl, hd⟩

structure DepositOk (c : Ctx) (amount : Int) (upTo : Bool) (o : Out) : Prop where
  checks : Entitled c false ∧ c.b.liquidityVault = c.vaultKey ∧ hasFlag c.b.books.flags TOKENLESS_REPAYMENTS_ALLOWED = false
  tags : Account.validateAssetTags c.a.slots c.b.books.assetTag = .ok ()
  state : bankState c .failsIfPausedOrReduceState = .ok ()
  flags : flag c ACCOUNT_DISABLED = false ∧ flag c ACCOUNT_IN_RECEIVERSHIP = false
  core : ∃ b amt, Bank.accrueInterest c.b.books c.b.ir c.now = .ok b ∧ Ix.depositAmt b amount upTo = .ok amt ∧
      (if amt = 0 then o.slots = c.a.slots ∧ o.books = b ∧ o.tokens = 0
       else ∃ slots i s x', Account.findOrCreate c.a.slots c.b.key b.assetTag c.now = .ok (slots, i) ∧ slots[i]? = some s ∧
              Ix.depositCore c.ixEnv b (some (toBal s)) amt = .ok (o.books, x', o.tokens) ∧
              o.slots = writeSlot c slots i (x'.getD (toBal s)))
  window : o.window = c.g.window

theorem deposit_ok {c : Ctx} {amount : Int} {upTo : Bool} {o : Out} (h : deposit c amount upTo = .ok o) :
    DepositOk c amount upTo o := by
  unfold deposit at h
  apply Res.bind_elim h; clear h; intro _ hc h
  apply Res.bind_elim h; clear h; intro _ ht h
  apply Res.bind_elim h; clear h; intro _ hs h
  apply Res.bind_elim h; clear h; intro _ hf h
  apply Res.bind_elim h; clear h; intro b hb h
  apply Res.bind_elim h; clear h; intro amt ha h
  by_cases h0 : amt = 0
  · rw [if_pos h0] at h
    cases h
    exact ⟨deposit_checks hc, ht, hs, by simpa using Bank.chk_ok hf, ⟨b, amt, hb, ha, by rw [if_pos h0]; exact ⟨rfl, rfl, rfl⟩⟩, rfl⟩
  · rw [if_neg h0] at h
    apply Res.bind_elim h; clear h; rintro ⟨slots, i⟩ hfc h
    apply Res.bind_elim h; clear h; intro x hx h
    apply Res.bind_elim h; clear h; rintro ⟨b', x', tok⟩ hcore h
    obtain ⟨s, hs', rfl⟩ := balAt_ok hx
    cases h
    exact ⟨deposit_checks hc, ht, hs, by simpa using Bank.chk_ok hf, ⟨b, amt, hb, ha, by rw [if_neg h0]; exact ⟨slots, i, s, x', hfc, hs', hcore, rfl⟩⟩, rfl⟩

structure BorrowOk (c : Ctx) (amount : Int) (o : Out) : Prop where
  checks : Entitled c false ∧ c.b.liquidityVault = c.vaultKey ∧ hasFlag c.b.books.flags TOKENLESS_REPAYMENTS_ALLOWED = false
  flags : flag c ACCOUNT_DISABLED = false ∧ flag c ACCOUNT_IN_RECEIVERSHIP = false
  core : ∃ b slots i x x', Bank.accrueInterest c.b.books c.b.ir c.now = .ok b ∧
      Account.validateAssetTags c.a.slots b.assetTag = .ok () ∧
      bankState c .failsIfPausedOrReduceState = .ok () ∧
      Account.findOrCreate c.a.slots c.b.key b.assetTag c.now = .ok (slots, i) ∧
      slots[i]? = some x ∧
      borrowCore c.ixEnv b (toBal x) amount = .ok (o.books, x', o.tokens) ∧
      o.slots = writeSlot c slots i x'
  health : initHealth c o.slots o.books = .ok ()
  window : o.window = c.g.window

theorem borrow_ok {c : Ctx} {amount : Int} {o : Out} (h : borrow c amount = .ok o) : BorrowOk c amount o := by
  unfold borrow at h
  apply Res.bind_elim h; clear h; intro _ hc h
  apply Res.bind_elim h; clear h; intro _ hf h
  apply Res.bind_elim h; clear h; intro b hb h
  apply Res.bind_elim h; clear h; intro _ ht h
  apply Res.bind_elim h; clear h; intro _ hs h
  apply Res.bind_elim h; clear h; rintro ⟨slots, i⟩ hfc h
  apply Res.bind_elim h; clear h; intro x hx h
  apply Res.bind_elim h; clear h; rintro ⟨b', x', tok⟩ hcore h
  apply Res.bind_elim h; clear h; intro _ hh h
  obtain ⟨s, hs', rfl⟩ := balAt_ok hx
  cases h
  exact ⟨borrow_checks hc, by simpa using Bank.chk_ok hf, ⟨b, slots, i, s, x', hb, ht, hs, hfc, hs', hcore, rfl⟩, hh, rfl⟩

theorem receivershipPrice_ok {c : Ctx} {p : Int} (h : receivershipPrice c = .ok p) :
    ∃ rb, c.risk.find? (·.key == c.b.key) = some rb ∧ Risk.priceOfType rb.feed .realTime (some .low) rb.r.maxConf = .ok p ∧ 0 < p := by
  unfold receivershipPrice at h
  revert h
  cases c.risk.find? (·.key == c.b.key) with
  | none => intro h; cases h
  | some rb =>
    intro h
    apply Res.bind_elim h; clear h; intro q hq h
    obtain ⟨hpos, h⟩ := Res.of_ite_else_error h
    cases h
    exact ⟨rb, rfl, hq, hpos⟩

theorem withdrawPrice_recv {c : Ctx} (hr : flag c ACCOUNT_IN_RECEIVERSHIP = true) : withdrawPrice c = receivershipPrice c :=
  if_pos hr

theorem withdrawPrice_pos {c : Ctx} {p : Int} (hr : flag c ACCOUNT_IN_RECEIVERSHIP = true) (h : withdrawPrice c = .ok p) : 0 < p := by
  obtain ⟨_, _, _, hpos⟩ := receivershipPrice_ok (withdrawPrice_recv hr ▸ h)
  exact hpos

structure WithdrawOk (c : Ctx) (amount : Int) (all : Bool) (o : Out) : Prop where
  checks : Entitled c true ∧ c.b.liquidityVault = c.vaultKey ∧
    (hasFlag c.a.flags ACCOUNT_IN_RECEIVERSHIP = false ∨ c.b.weightInitZero = false)
  flags : flag c ACCOUNT_DISABLED = false
  state : bankState c .failsInPausedState = .ok ()
  core : ∃ price b i s x' pre, withdrawPrice c = .ok price ∧
      Bank.accrueInterest c.b.books c.b.ir c.now = .ok b ∧ findSlot c = .ok (i, s) ∧
      withdrawCore c b (toBal s) amount all = .ok (o.books, x', pre) ∧
      o.tokens = withdrawPays c o.books pre ∧
      withdrawWindow c price o.books o.tokens = .ok o.window ∧
      o.slots = writeSlot c c.a.slots i x'
  health : withdrawHealth c o.slots o.books = .ok ()

theorem withdraw_ok {c : Ctx} {amount : Int} {all : Bool} {o : Out} (h : withdraw c amount all = .ok o) :
    WithdrawOk c amount all o := by
  unfold withdraw at h
  apply Res.bind_elim h; clear h; intro _ hc h
  apply Res.bind_elim h; clear h; intro _ hf h
  apply Res.bind_elim h; clear h; intro _ hs h
  apply Res.bind_elim h; clear h; intro price hp h
  apply Res.bind_elim h; clear h; intro b hb h
  apply Res.bind_elim h; clear h; rintro ⟨i, s⟩ hfs h
  apply Res.bind_elim h; clear h; rintro ⟨b', x', pre⟩ hcore h
  apply Res.bind_elim h; clear h; intro w hw h
  apply Res.bind_elim h; clear h; intro _ hh h
  cases h
  exact ⟨withdraw_checks hc, by simpa using Bank.chk_ok hf, hs, ⟨price, b, i, s, x', pre, hp, hb, hfs, hcore, rfl, hw, rfl⟩, hh⟩

structure RepayOk (c : Ctx) (amount : Int) (all : Bool) (o : Out) : Prop where
  checks : Entitled c true ∧ c.b.liquidityVault = c.vaultKey
  flags : flag c ACCOUNT_DISABLED = false
  state : bankState c .failsInPausedState = .ok ()
  core : ∃ b i s b' x' post, Bank.accrueInterest c.b.books c.b.ir c.now = .ok b ∧ findSlot c = .ok (i, s) ∧
      repayCore c b (toBal s) amount all = .ok (b', x', post) ∧
      repayTokens c b' post all = .ok o.tokens ∧
      o.books = { b' with flags := repayFlags b' } ∧
      o.slots = writeSlot c c.a.slots i x'
  window : o.window = c.g.window

theorem repay_ok {c : Ctx} {amount : Int} {all : Bool} {o : Out} (h : repay c amount all = .ok o) : RepayOk c amount all o := by
  unfold repay at h
  apply Res.bind_elim h; clear h; intro _ hc h
  apply Res.bind_elim h; clear h; intro _ hf h
  apply Res.bind_elim h; clear h; intro _ hs h
  apply Res.bind_elim h; clear h; intro b hb h
  apply Res.bind_elim h; clear h; rintro ⟨i, s⟩ hfs h
  apply Res.bind_elim h; clear h; rintro ⟨b', x', post⟩ hcore h
  apply Res.bind_elim h; clear h; intro tok htok h
  cases h
  exact ⟨repay_checks hc, by simpa using Bank.chk_ok hf, hs, ⟨b, i, s, b', x', post, hb, hfs, hcore, htok, rfl, rfl⟩, rfl⟩

structure CloseOk (c : Ctx) (o : Out) : Prop where
  checks : Entitled c false
  flags : flag c ACCOUNT_DISABLED = false
  core : ∃ b i s x', Bank.accrueInterest c.b.books c.b.ir c.now = .ok b ∧ findSlot c = .ok (i, s) ∧
      Bank.closeBalanceOp b (toBal s) c.now = .ok (o.books, x') ∧ o.slots = writeSlot c c.a.slots i x'
  rest : o.tokens = 0 ∧ o.window = c.g.window

theorem close_ok {c : Ctx} {o : Out} (h : closeBalance c = .ok o) : CloseOk c o := by
  unfold closeBalance at h
  apply Res.bind_elim h; clear h; intro _ hc h
  apply Res.bind_elim h; clear h; intro _ hf h
  apply Res.bind_elim h; clear h; intro b hb h
  apply Res.bind_elim h; clear h; rintro ⟨i, s⟩ hfs h
  apply Res.bind_elim h; clear h; rintro ⟨b', x'⟩ hcore h
  cases h
  exact ⟨close_checks hc, by simpa using Bank.chk_ok hf, ⟨b, i, s, x', hb, hfs, hcore, rfl⟩, rfl, rfl⟩

/-- the values a successful `World.liquidate` computes on its way, in the handler's order -/
structure LiqTrace where
  a : Bank.Bank                      -- the collateral bank, accrued
  l : Bank.Bank                      -- the debt bank, accrued
  ps : List Risk.Pos                 -- the liquidatee's portfolio beforehand
  pre : Int                          -- its maintenance health
  ap : Int
  lp : Int
  aLq : Int
  aFin : Int
  aFee : Int
  lq1 : List Account.Slot            -- move 1: the liquidator takes on the debt
  i1 : Nat
  s1 : Account.Slot
  l1 : Bank.Bank
  x1 : Bank.Balance
  i2 : Nat                           -- move 2: the liquidatee gives up the collateral
  s2 : Account.Slot
  preA : Int
  a2 : Bank.Bank
  x2 : Bank.Balance
  lq3 : List Account.Slot            -- move 3: the liquidator receives it
  i3 : Nat
  s3 : Account.Slot
  a3 : Bank.Bank
  x3 : Bank.Balance
  i4 : Nat                           -- move 4: the liquidatee's debt is repaid
  s4 : Account.Slot
  l4 : Bank.Bank
  x4 : Bank.Balance
  ps' : List Risk.Pos                -- the liquidatee's portfolio as left
  lp' : Risk.Pos
  post : Int

structure LiquidateOk (c : LiqCtx) (amount : Int) (o : LiqOutW) (t : LiqTrace) : Prop where
  notPaused : c.g.paused = false
  groups : c.ab.group = c.g.key ∧ c.lb.group = c.g.key ∧ c.lq.group = c.g.key ∧ c.le.group = c.g.key
  ownTag : tagIs .marginfi c.lb.books.assetTag = true
  noRecv : hasFlag c.lq.flags ACCOUNT_IN_RECEIVERSHIP = false ∧ hasFlag c.le.flags ACCOUNT_IN_RECEIVERSHIP = false
  notFrozen : Auth.notFrozenForAuthority (acctView c.lq.authority c.lq.flags) c.signer = true
  signer : Auth.isSignerAuthorized (acctView c.lq.authority c.lq.flags) c.g.admin c.signer false = true
  positive : 0 < amount
  banks : c.ab.key ≠ c.lb.key
  bankTags : bankTagsCompatible c.ab.books.assetTag c.lb.books.assetTag = true
  stateA : stateOf c.ab.opState .failsInPausedState = .ok ()
  stateL : stateOf c.lb.opState .failsInPausedState = .ok ()
  tags : Account.validateAssetTags c.le.slots c.lb.books.assetTag = .ok () ∧
    Account.validateAssetTags c.lq.slots c.lb.books.assetTag = .ok () ∧ Account.validateAssetTags c.lq.slots c.ab.books.assetTag = .ok ()
  accA : Bank.accrueInterest c.ab.books c.ab.ir c.now = .ok t.a
  accL : Bank.accrueInterest c.lb.books c.lb.ir c.now = .ok t.l
  leNoFlash : hasFlag c.le.flags ACCOUNT_IN_FLASHLOAN = false
  before : portfolio2 c.risk (Account.sortBalances c.le.slots) c.ab.key t.a c.lb.key t.l = .ok t.ps
  pre : Risk.preLiquidationFor t.ps (posOf t.ps (Account.sortBalances c.le.slots) c.lb.key) = .ok t.pre
  priceA : feedPrice c.risk c.ab.key .low = .ok t.ap ∧ 0 < t.ap
  priceL : feedPrice c.risk c.lb.key .high = .ok t.lp ∧ 0 < t.lp
  amounts : liqAmountsLate amount t.ap t.lp (Bank.balanceDecimals t.a) (Bank.balanceDecimals t.l) = .ok (t.aLq, t.aFin, t.aFee)
  fee : Fx.toU64? t.aFee = some o.insuranceTokens
  slot1 : Account.findOrCreate c.lq.slots c.lb.key t.l.assetTag c.now = .ok (t.lq1, t.i1)
  get1 : t.lq1[t.i1]? = some t.s1 ∧ t.s1.active = true ∧ t.s1.bank = c.lb.key
  move1 : Bank.decreaseBalance t.l (toBal t.s1) c.now t.aLq .bypassBorrowLimit = .ok (t.l1, t.x1)
  slot2 : Account.findIdx (Account.sortBalances c.le.slots) c.ab.key = some t.i2
  get2 : (Account.sortBalances c.le.slots)[t.i2]? = some t.s2 ∧ t.s2.active = true ∧ t.s2.bank = c.ab.key
  held : Bank.assetAmount t.a t.s2.a = .ok t.preA ∧ Fx.ofInt amount ≤ t.preA
  move2 : Bank.decreaseBalance t.a (toBal t.s2) c.now (Fx.ofInt amount) .bypassBorrowLimit = .ok (t.a2, t.x2)
  slot3 : Account.findOrCreate (t.lq1.set t.i1 (ofBal c.lb.key t.x1)) c.ab.key t.a2.assetTag c.now = .ok (t.lq3, t.i3)
  get3 : t.lq3[t.i3]? = some t.s3 ∧ t.s3.active = true ∧ t.s3.bank = c.ab.key
  move3 : Bank.increaseBalance t.a2 (toBal t.s3) c.now (Fx.ofInt amount) .bypassDepositLimit = .ok (t.a3, t.x3)
  slot4 : Account.findIdx ((Account.sortBalances c.le.slots).set t.i2 (ofBal c.ab.key t.x2)) c.lb.key = some t.i4
  get4 : ((Account.sortBalances c.le.slots).set t.i2 (ofBal c.ab.key t.x2))[t.i4]? = some t.s4 ∧ t.s4.active = true ∧ t.s4.bank = c.lb.key
  move4 : Bank.increaseBalance t.l1 (toBal t.s4) c.now t.aFin .repayOnly = .ok (t.l4, t.x4)
  lqSlots : o.lqSlots = Account.sortBalances (t.lq3.set t.i3 (ofBal c.ab.key t.x3))
  leSlots : o.leSlots = ((Account.sortBalances c.le.slots).set t.i2 (ofBal c.ab.key t.x2)).set t.i4 (ofBal c.lb.key t.x4)
  assetBooks : o.assetBooks = t.a3
  liabBooks : o.liabBooks = { t.l4 with feeI := t.l4.feeI + Fx.frac t.aFee }
  after : portfolio2 c.risk o.leSlots c.ab.key o.assetBooks c.lb.key o.liabBooks = .ok t.ps'
  lp' : posOf t.ps' o.leSlots c.lb.key = some t.lp'
  post : Risk.postLiquidation t.ps' t.lp' t.pre = .ok t.post
  lqHealth : hasFlag c.lq.flags ACCOUNT_IN_FLASHLOAN = true ∨
    ∃ qs, portfolio2 c.risk o.lqSlots c.ab.key o.assetBooks c.lb.key o.liabBooks = .ok qs ∧ Risk.checkInitHealth qs = .ok ()

theorem liquidate_ok {c : LiqCtx} {amount : Int} {o : LiqOutW} (h : liquidate c amount = .ok o) : ∃ t, LiquidateOk c amount o t := by
  unfold liquidate at h
  apply Res.bind_elim h; clear h; intro _ hc h
  apply Res.bind_elim h; clear h; intro _ hamt h
  apply Res.bind_elim h; clear h; intro _ hdiff h
  apply Res.bind_elim h; clear h; intro _ hbt h
  apply Res.bind_elim h; clear h; intro _ hsa h
  apply Res.bind_elim h; clear h; intro _ hsl h
  apply Res.bind_elim h; clear h; intro _ ht1 h
  apply Res.bind_elim h; clear h; intro _ ht2 h
  apply Res.bind_elim h; clear h; intro _ ht3 h
  apply Res.bind_elim h; clear h; intro a ha h
  apply Res.bind_elim h; clear h; intro l hl h
  apply Res.bind_elim h; clear h; intro _ hfl h
  apply Res.bind_elim h; clear h; intro ps hps h
  apply Res.bind_elim h; clear h; intro pre hpre h
  apply Res.bind_elim h; clear h; intro ap hap h
  apply Res.bind_elim h; clear h; intro _ hap0 h
  apply Res.bind_elim h; clear h; intro lp hlp h
  apply Res.bind_elim h; clear h; intro _ hlp0 h
  apply Res.bind_elim h; clear h; rintro ⟨aLq, aFin, aFee⟩ hamts h
  apply Res.bind_elim h; clear h; rintro ⟨lq1, i1⟩ hf1 h
  apply Res.bind_elim h; clear h; intro x1 hx1 h
  apply Res.bind_elim h; clear h; intro r1 hr1 h
  apply Res.bind_elim h; clear h; intro i2 hi2 h
  apply Res.bind_elim h; clear h; intro x2 hx2 h
  apply Res.bind_elim h; clear h; intro preA hpreA h
  apply Res.bind_elim h; clear h; intro _ hover h
  apply Res.bind_elim h; clear h; intro r2 hr2 h
  apply Res.bind_elim h; clear h; rintro ⟨lq3, i3⟩ hf3 h
  apply Res.bind_elim h; clear h; intro x3 hx3 h
  apply Res.bind_elim h; clear h; intro r3 hr3 h
  apply Res.bind_elim h; clear h; intro fw hfw h
  apply Res.bind_elim h; clear h; intro i4 hi4 h
  apply Res.bind_elim h; clear h; intro x4 hx4 h
  apply Res.bind_elim h; clear h; intro r4 hr4 h
  apply Res.bind_elim h; clear h; intro f hf h
  apply Res.bind_elim h; clear h; intro ps' hps' h
  apply Res.bind_elim h; clear h; intro lp' hlp' h
  apply Res.bind_elim h; clear h; intro post hpost h
  apply Res.bind_elim h; clear h; intro _ hq h
  obtain ⟨s1, hs1, rfl⟩ := balAt_ok hx1
  obtain ⟨s2, hs2, rfl⟩ := balAt_ok hx2
  obtain ⟨s3, hs3, rfl⟩ := balAt_ok hx3
  obtain ⟨s4, hs4, rfl⟩ := balAt_ok hx4
  -- the four inline `match … with | some v => .ok v | none => .error _`: each matched a `some`
  generalize e2 : Account.findIdx _ c.ab.key = m at hi2
  obtain rfl : m = some i2 := by cases m <;> cases hi2; rfl
  generalize e4 : Account.findIdx _ c.lb.key = m at hi4
  obtain rfl : m = some i4 := by cases m <;> cases hi4; rfl
  generalize ew : Fx.toU64? aFee = m at hfw
  obtain rfl : m = some fw := by cases m <;> cases hfw; rfl
  generalize ep : posOf ps' _ c.lb.key = m at hlp'
  obtain rfl : m = some lp' := by cases m <;> cases hlp'; rfl
  have row := runChecks_row hc
  simp only [checks, List.map_cons, List.map_nil, List.forall_mem_cons, List.not_mem_nil, false_imp_iff, implies_true, and_true] at row
  simp [evalChk, LiqCtx.env, flBit, flagsOf, AccV.key] at row
  obtain ⟨c1, c2, c3, c4, c5, c6, c7, c8, c9, c10⟩ := row
  have hqh : hasFlag c.lq.flags ACCOUNT_IN_FLASHLOAN = true ∨ ∃ qs, portfolio2 c.risk (Account.sortBalances (lq3.set i3 (ofBal c.ab.key r3.2)))
      c.ab.key r3.1 c.lb.key { r4.1 with feeI := f } = .ok qs ∧ Risk.checkInitHealth qs = .ok () := by
    by_cases hflq : hasFlag c.lq.flags ACCOUNT_IN_FLASHLOAN = true
    · exact Or.inl hflq
    · rw [if_neg hflq] at hq
      exact Or.inr (Res.bind_ok hq)
  cases (add?_some (Bank.math_ok hf)).1
  cases h
  exact ⟨{ a, l, ps, pre, ap, lp, aLq, aFin, aFee, lq1, i1, s1, l1 := r1.1, x1 := r1.2, i2, s2, preA, a2 := r2.1, x2 := r2.2,
           lq3, i3, s3, a3 := r3.1, x3 := r3.2, i4, s4, l4 := r4.1, x4 := r4.2, ps', lp', post },
    { notPaused := c1, groups := ⟨c2, c3, c5, c9⟩, ownTag := c4, noRecv := ⟨c6, c10⟩, notFrozen := c7, signer := c8
      positive := by simpa using Bank.chk_ok hamt
      banks := by simpa using Bank.chk_ok hdiff
      bankTags := Bank.chk_ok hbt
      stateA := hsa, stateL := hsl, tags := ⟨ht1, ht2, ht3⟩, accA := ha, accL := hl
      leNoFlash := by simpa using Bank.chk_ok hfl
      before := hps, pre := hpre
      priceA := ⟨hap, by simpa using Bank.chk_ok hap0⟩
      priceL := ⟨hlp, by simpa using Bank.chk_ok hlp0⟩
      amounts := hamts, fee := ew
      slot1 := hf1, get1 := ⟨hs1, Account.findOrCreate_slot hf1 hs1⟩, move1 := hr1
      slot2 := e2, get2 := ⟨hs2, Account.findIdx_at e2 hs2⟩
      held := ⟨hpreA, by simpa using Bank.chk_ok hover⟩
      move2 := hr2
      slot3 := hf3, get3 := ⟨hs3, Account.findOrCreate_slot hf3 hs3⟩, move3 := hr3
      slot4 := e4, get4 := ⟨hs4, Account.findIdx_at e4 hs4⟩, move4 := hr4
      lqSlots := rfl, leSlots := rfl, assetBooks := rfl, liabBooks := rfl
      after := hps', lp' := ep, post := hpost, lqHealth := hqh }⟩

structure BankruptcyOk (c : Ctx) (available : Int) (o : BkrOut) : Prop where
  notPaused : c.g.paused = false
  acctGroup : c.a.group = c.g.key
  bankGroup : c.b.group = c.g.key
  ownTag : tagIs .marginfi c.b.books.assetTag = true
  noRecv : hasFlag c.a.flags ACCOUNT_IN_RECEIVERSHIP = false
  noFlash : hasFlag c.a.flags ACCOUNT_IN_FLASHLOAN = false
  state : bankState c .failsInPausedState = .ok ()
  signer : Bank.bankruptcyAuthorized (hasFlag c.b.books.flags PERMISSIONLESS_BAD_DEBT_SETTLEMENT_FLAG) c.signer c.g.admin c.g.riskAdmin = true
  bankrupt : ∃ ps eq, portfolio c c.a.slots c.b.books = .ok ps ∧ Risk.checkBankrupt ps = .ok eq
  core : ∃ b i s st, Bank.accrueInterest c.b.books c.b.ir c.now = .ok b ∧ Account.findIdx c.a.slots c.b.key = some i ∧
      c.a.slots[i]? = some s ∧ s.active = true ∧ s.bank = c.b.key ∧
      Bank.settleBankruptcy b (toBal s) available c.now = .ok st ∧
      o = { slots := c.a.slots.set i (ofBal c.b.key st.bal), books := st.bank, insuranceTokens := st.coveredUp,
            opState := if st.kill then 3 else c.b.opState, flags := c.a.flags ||| ACCOUNT_DISABLED.toNat }

theorem bankruptcy_ok {c : Ctx} {available : Int} {o : BkrOut} (h : bankruptcy c available = .ok o) : BankruptcyOk c available o := by
  unfold bankruptcy at h
  apply Res.bind_elim h; clear h; intro _ hc h
  apply Res.bind_elim h; clear h; intro _ hs h
  apply Res.bind_elim h; clear h; intro _ ha h
  apply Res.bind_elim h; clear h; intro ps hps h
  apply Res.bind_elim h; clear h; intro eq heq h
  apply Res.bind_elim h; clear h; intro b hb h
  revert h
  cases hi : Account.findIdx c.a.slots c.b.key with
  | none => intro h; cases h
  | some i =>
    intro h
    apply Res.bind_elim h; clear h; intro x hx h
    apply Res.bind_elim h; clear h; intro st hst h
    obtain ⟨s, hs1, rfl⟩ := balAt_ok hx
    cases h
    have row := runChecks_row hc
    simp only [checks, List.map_cons, List.map_nil, List.forall_mem_cons, List.not_mem_nil, false_imp_iff, implies_true, and_true] at row
    simp [evalChk, Ctx.env, flBit, flagsOf] at row
    obtain ⟨c1, c2, c3, c4, c5, c6⟩ := row
    exact ⟨c1, c4, c2, c3, c5, c6, hs, Bank.chk_ok ha, ⟨ps, eq, hps, heq⟩, b, i, s, st, hb, hi, hs1, (Account.findIdx_at hi hs1).1,
      (Account.findIdx_at hi hs1).2, hst, rfl⟩

structure WithdrawEmissionsOk (c : Ctx) (o : Out) : Prop where
  checks : Entitled c false
  mint : c.b.emissionsMint = c.emisMint
  flags : flag c ACCOUNT_DISABLED = false
  core : ∃ i s x', findSlot c = .ok (i, s) ∧ Bank.settleEmissions c.b.books (toBal s) c.now = .ok (o.books, x', o.tokens) ∧
      o.slots = c.a.slots.set i (ofBal c.b.key x')
  window : o.window = c.g.window

theorem withdrawEmissions_ok {c : Ctx} {o : Out} (h : withdrawEmissions c = .ok o) : WithdrawEmissionsOk c o := by
  unfold withdrawEmissions at h
  apply Res.bind_elim h; clear h; intro _ hc h
  apply Res.bind_elim h; clear h; intro _ hf h
  apply Res.bind_elim h; clear h; rintro ⟨i, s⟩ hfs h
  apply Res.bind_elim h; clear h; rintro ⟨b', x', amt⟩ hset h
  cases h
  exact ⟨entitled_of_rows hc (by decide),
    by simpa [evalChk, Ctx.env] using runChecks_row hc (.hasOne .f_bank .f_emissions_mint) (by decide),
    by simpa using Bank.chk_ok hf, ⟨i, s, x', hfs, hset, rfl⟩, rfl⟩

theorem closeAccount_ok {c : Ctx} (h : closeAccount c = .ok ()) :
    c.a.authority = c.signer ∧ flag c ACCOUNT_FROZEN = false ∧
    Account.canBeClosed c.a.slots (flag c ACCOUNT_DISABLED) (flag c ACCOUNT_IN_FLASHLOAN) (flag c ACCOUNT_IN_RECEIVERSHIP) = .ok true := by
  unfold closeAccount at h
  apply Res.bind_elim h; clear h; intro _ hc h
  apply Res.bind_elim h; clear h; intro _ hf h
  apply Res.bind_elim h; clear h; intro ok hcan h
  rw [Bank.chk_ok h] at hcan
  exact ⟨authority_row hc (by decide), by simpa using Bank.chk_ok hf, hcan⟩

theorem endFlashloan_ok {c : Ctx} {stack f : Nat} (h : endFlashloan c stack = .ok f) :
    c.a.authority = c.signer ∧ stack = 1 ∧
    flag c ACCOUNT_DISABLED = false ∧ flag c ACCOUNT_IN_RECEIVERSHIP = false ∧ flag c ACCOUNT_FROZEN = false ∧
    (∃ ps, portfolio c c.a.slots c.b.books = .ok ps ∧ Risk.checkInitHealth ps = .ok ()) ∧
    f = c.a.flags &&& (Nat.xor ACCOUNT_IN_FLASHLOAN.toNat (2 ^ 64 - 1)) := by
  unfold endFlashloan at h
  apply Res.bind_elim h; clear h; intro _ hc h
  apply Res.bind_elim h; clear h; intro _ hs h
  apply Res.bind_elim h; clear h; intro _ hd h
  apply Res.bind_elim h; clear h; intro _ hr h
  apply Res.bind_elim h; clear h; intro _ hz h
  apply Res.bind_elim h; clear h; intro ps hps h
  apply Res.bind_elim h; clear h; intro _ hh h
  cases h
  exact ⟨authority_row hc (by decide), by simpa using Bank.chk_ok hs, by simpa using Bank.chk_ok hd, by simpa using Bank.chk_ok hr,
    by simpa using Bank.chk_ok hz, ⟨ps, hps, hh⟩, rfl⟩

theorem endFlashloan_marks {c : Ctx} {stack f : Nat} (h : endFlashloan c stack = .ok f) :
    hasFlag f ACCOUNT_IN_FLASHLOAN = false ∧ hasFlag f ACCOUNT_IN_RECEIVERSHIP = hasFlag c.a.flags ACCOUNT_IN_RECEIVERSHIP := by
  rw [(endFlashloan_ok h).2.2.2.2.2.2, hasFlag_clear FLASH_bit FLASH_bit (by decide), hasFlag_clear FLASH_bit RECV_bit (by decide)]
  exact ⟨Bool.and_false _, Bool.and_true _⟩

theorem accrueIx_spec {c : Ctx} {books : Bank.Bank} :
    accrueIx c = .ok books ↔ c.b.group = c.g.key ∧ Bank.accrueInterest c.b.books c.b.ir c.now = .ok books := by
  constructor
  · intro h
    unfold accrueIx at h
    apply Res.bind_elim h; clear h; intro _ hc h
    exact ⟨by simpa [evalChk, Ctx.env] using runChecks_row hc (.hasOne .f_bank .f_group) (by decide), h⟩
  · intro ⟨hg, h⟩
    have hc : runChecks c.env (checks .LendingPoolAccrueBankInterest) = .ok () := by simp [checks, runChecks, evalChk, Ctx.env, hg]
    rw [accrueIx, hc]; exact h

theorem collectFeesIx_spec {c : Ctx} {ok : Bool} {o : CollectOut} (h : collectFeesIx c ok = .ok o) :
    c.g.paused = false ∧ c.b.group = c.g.key ∧ ok = true ∧
    ∃ r, Bank.collectFees c.b.books.feeI c.b.books.feeG c.b.books.feeP c.vaultAmount = .ok r ∧
      o = { books := { c.b.books with feeI := r.feeI, feeG := r.feeG, feeP := r.feeP },
            toInsurance := r.toInsurance, toGroup := r.toGroup, toProgram := r.toProgram } := by
  unfold collectFeesIx at h
  apply Res.bind_elim h; clear h; intro _ hc h
  apply Res.bind_elim h; clear h; intro _ hk h
  apply Res.bind_elim h; clear h; intro r hr h
  cases h
  exact ⟨by simpa [evalChk, Ctx.env] using runChecks_row hc (.cons .f_group (.notPaused .f_group)) (by decide),
    by simpa [evalChk, Ctx.env] using runChecks_row hc (.hasOne .f_bank .f_group) (by decide), Bank.chk_ok hk, r, hr, rfl⟩

theorem startLiquidation_ok {c : RCtx} {shape : Res Unit} {o : StartLiqOut} (h : startLiquidation c shape = .ok o) :
    c.recordOk = true ∧ hasFlag c.a.flags ACCOUNT_IN_RECEIVERSHIP = false ∧ shape = .ok () ∧
    (∃ ps, c.portfolio = .ok ps ∧ Risk.startReceivership ps false = .ok o.cache) ∧
    o.flags = c.a.flags ||| ACCOUNT_IN_RECEIVERSHIP.toNat ∧ o.receiver = c.receiver := by
  unfold startLiquidation at h
  apply Res.bind_elim h; clear h; intro _ hc h
  apply Res.bind_elim h; clear h; intro ps hps h
  apply Res.bind_elim h; clear h; intro cache hcache h
  apply Res.bind_elim h; clear h; intro _ hsh h
  cases h
  have row := runChecks_row hc
  simp only [checks, List.map_cons, List.map_nil, List.forall_mem_cons, List.not_mem_nil, false_imp_iff, implies_true, and_true] at row
  simp [evalChk, RCtx.env, flBit, flagsOf] at row
  exact ⟨row.1, row.2.1, hsh, ⟨ps, hps, hcache⟩, rfl, rfl⟩

theorem startLiquidation_marks {c : RCtx} {shape : Res Unit} {o : StartLiqOut} (h : startLiquidation c shape = .ok o) :
    hasFlag o.flags ACCOUNT_IN_FLASHLOAN = hasFlag c.a.flags ACCOUNT_IN_FLASHLOAN ∧ hasFlag o.flags ACCOUNT_IN_RECEIVERSHIP = true := by
  rw [(startLiquidation_ok h).2.2.2.2.1, hasFlag_or RECV_bit FLASH_bit, hasFlag_or RECV_bit RECV_bit]
  exact ⟨Bool.or_false _, Bool.or_true _⟩

theorem endLiquidation_ok {c : RCtx} {stack : Nat} {o : EndLiqOut} (h : endLiquidation c stack = .ok o) :
    c.recordOk = true ∧ hasFlag c.a.flags ACCOUNT_IN_RECEIVERSHIP = true ∧ c.a.recReceiver = c.receiver ∧ c.walletOk = true ∧ stack = 1 ∧
    (∃ ps, c.portfolio = .ok ps ∧ Risk.endLiquidation c.a.recCache ps c.feeMax = .ok (o.seized, o.repaid)) ∧
    o.flags = c.a.flags &&& (Nat.xor ACCOUNT_IN_RECEIVERSHIP.toNat (2 ^ 64 - 1)) := by
  unfold endLiquidation at h
  apply Res.bind_elim h; clear h; intro _ hc h
  apply Res.bind_elim h; clear h; intro _ hs h
  apply Res.bind_elim h; clear h; intro ps hps h
  apply Res.bind_elim h; clear h; rintro ⟨sz, rp⟩ hend h
  cases h
  have row := runChecks_row hc
  simp only [checks, List.map_cons, List.map_nil, List.forall_mem_cons, List.not_mem_nil, false_imp_iff, implies_true, and_true] at row
  simp [evalChk, RCtx.env, flBit, flagsOf] at row
  obtain ⟨r1, r2, _, _, r5, r6⟩ := row
  exact ⟨r1, r2, r5, r6, by simpa using Bank.chk_ok hs, ⟨ps, hps, hend⟩, rfl⟩

theorem endLiquidation_marks {c : RCtx} {stack : Nat} {o : EndLiqOut} (h : endLiquidation c stack = .ok o) :
    hasFlag o.flags ACCOUNT_IN_FLASHLOAN = hasFlag c.a.flags ACCOUNT_IN_FLASHLOAN ∧ hasFlag o.flags ACCOUNT_IN_RECEIVERSHIP = false := by
  rw [(endLiquidation_ok h).2.2.2.2.2.2, hasFlag_clear RECV_bit FLASH_bit (by decide), hasFlag_clear RECV_bit RECV_bit (by decide)]
  exact ⟨Bool.and_true _, Bool.and_false _⟩

theorem startDeleverage_ok {c : RCtx} {shape : Res Unit} {o : StartLiqOut} (h : startDeleverage c shape = .ok o) :
    (c.recordOk = true ∧ c.a.group = c.g.key ∧ c.g.riskAdmin = c.receiver) ∧ hasFlag c.a.flags ACCOUNT_IN_RECEIVERSHIP = false ∧ shape = .ok () ∧
    (∃ ps, c.portfolio = .ok ps ∧ Risk.startReceivership ps true = .ok o.cache) ∧
    o.flags = (c.a.flags ||| ACCOUNT_IN_DELEVERAGE.toNat) ||| ACCOUNT_IN_RECEIVERSHIP.toNat ∧ o.receiver = c.receiver := by
  unfold startDeleverage at h
  apply Res.bind_elim h; clear h; intro _ hc h
  apply Res.bind_elim h; clear h; intro ps hps h
  apply Res.bind_elim h; clear h; intro cache hcache h
  apply Res.bind_elim h; clear h; intro _ hsh h
  cases h
  have row := runChecks_row hc
  simp only [checks, List.map_cons, List.map_nil, List.forall_mem_cons, List.not_mem_nil, false_imp_iff, implies_true, and_true] at row
  simp [evalChk, RCtx.envD, flBit, flagsOf] at row
  obtain ⟨r1, rg, r2, _, _, ra⟩ := row
  exact ⟨⟨r1, rg, ra⟩, r2, hsh, ⟨ps, hps, hcache⟩, rfl, rfl⟩

theorem startDeleverage_marks {c : RCtx} {shape : Res Unit} {o : StartLiqOut} (h : startDeleverage c shape = .ok o) :
    hasFlag o.flags ACCOUNT_IN_FLASHLOAN = hasFlag c.a.flags ACCOUNT_IN_FLASHLOAN ∧ hasFlag o.flags ACCOUNT_IN_RECEIVERSHIP = true := by
  rw [(startDeleverage_ok h).2.2.2.2.1, hasFlag_or RECV_bit FLASH_bit, hasFlag_or DELEV_bit FLASH_bit, hasFlag_or RECV_bit RECV_bit]
  exact ⟨(Bool.or_false _).trans (Bool.or_false _), Bool.or_true _⟩

theorem endDeleverage_ok {c : RCtx} {stack : Nat} {o : EndLiqOut} (h : endDeleverage c stack = .ok o) :
    (c.recordOk = true ∧ c.a.group = c.g.key ∧ c.g.riskAdmin = c.receiver) ∧ hasFlag c.a.flags ACCOUNT_IN_RECEIVERSHIP = true ∧
    c.a.recReceiver = c.receiver ∧ stack = 1 ∧
    (∃ ps, c.portfolio = .ok ps ∧ Risk.endDeleverage c.a.recCache ps = .ok (o.seized, o.repaid)) ∧
    o.flags = (c.a.flags &&& (Nat.xor ACCOUNT_IN_DELEVERAGE.toNat (2 ^ 64 - 1))) &&& (Nat.xor ACCOUNT_IN_RECEIVERSHIP.toNat (2 ^ 64 - 1)) := by
  unfold endDeleverage at h
  apply Res.bind_elim h; clear h; intro _ hc h
  apply Res.bind_elim h; clear h; intro _ hs h
  apply Res.bind_elim h; clear h; intro ps hps h
  apply Res.bind_elim h; clear h; rintro ⟨sz, rp⟩ hend h
  cases h
  have row := runChecks_row hc
  simp only [checks, List.map_cons, List.map_nil, List.forall_mem_cons, List.not_mem_nil, false_imp_iff, implies_true, and_true] at row
  simp [evalChk, RCtx.envD, flBit, flagsOf] at row
  obtain ⟨r1, rg, r2, _, _, rr, ra⟩ := row
  exact ⟨⟨r1, rg, ra⟩, r2, rr, by simpa using Bank.chk_ok hs, ⟨ps, hps, hend⟩, rfl⟩

theorem endDeleverage_marks {c : RCtx} {stack : Nat} {o : EndLiqOut} (h : endDeleverage c stack = .ok o) :
    hasFlag o.flags ACCOUNT_IN_FLASHLOAN = hasFlag c.a.flags ACCOUNT_IN_FLASHLOAN ∧ hasFlag o.flags ACCOUNT_IN_RECEIVERSHIP = false := by
  rw [(endDeleverage_ok h).2.2.2.2.2, hasFlag_clear RECV_bit FLASH_bit (by decide), hasFlag_clear DELEV_bit FLASH_bit (by decide),
    hasFlag_clear RECV_bit RECV_bit (by decide)]
  exact ⟨(Bool.and_true _).trans (Bool.and_true _), Bool.and_false _⟩

end Mfi.World
