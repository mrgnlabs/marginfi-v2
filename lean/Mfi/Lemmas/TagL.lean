/-
  Which banks the standard (token-denominated) instructions may touch: table facts over the constraint table
  regenerated from every #[derive(Accounts)] struct on each run.
-/
import Mfi.Lemmas.AccL

namespace Mfi.TagL
open Mfi.Gen.Acc

/-- the user / admin instructions whose share accounting is in the bank mint's own token units -/
def standardOnBank : List S :=
  [.LendingAccountDeposit, .LendingAccountWithdraw, .LendingAccountBorrow, .LendingAccountRepay, .LendingAccountCloseBalance,
   .LendingAccountPurgeDelevBalance, .LendingPoolHandleBankruptcy, .LendingAccountWithdrawEmissions, .LendingAccountSettleEmissions,
   .LendingAccountWithdrawEmissionsPermissionless]

/-- The standard instructions act on the program's own banks only: each of them carries the constraint
    `is_marginfi_asset_tag(bank.config.asset_tag)` on its bank (classic liquidation: on the DEBT bank, the collateral seized
    may be venue-backed and moves between two positions of the same bank in that bank's own units); the venue instructions
    carry their venue's tag. A deposit, withdrawal, borrow or repayment in mint tokens can therefore never be booked
    against a bank whose shares are denominated in a third-party venue's units. -/
def OwnBanks : Prop :=
    (∀ s ∈ standardOnBank, hasCons s .f_bank (.assetTag .marginfi .f_bank) = true) ∧
    hasCons .LendingAccountLiquidate .f_liab_bank (.assetTag .marginfi .f_liab_bank) = true ∧
    (∀ s ∈ [S.KaminoDeposit, S.KaminoWithdraw], hasCons s .f_bank (.assetTag .kamino .f_bank) = true) ∧
    (∀ s ∈ [S.DriftDeposit, S.DriftWithdraw], hasCons s .f_bank (.assetTag .drift .f_bank) = true) ∧
    (∀ s ∈ [S.SolendDeposit, S.SolendWithdraw], hasCons s .f_bank (.assetTag .solend .f_bank) = true)

theorem standard_instructions_only_on_own_banks : OwnBanks := by unfold OwnBanks; decide

end Mfi.TagL
