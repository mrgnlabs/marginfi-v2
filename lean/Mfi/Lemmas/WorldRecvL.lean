/-
  The receivership bracket inside transactions of the world state machine (Mfi/Model/WorldTx.lean). The three invariants
  (`RecvInv`, `CacheInv`, `NoStray`) are properties of every (place, account) of the world; an instruction of a transaction
  either is a whole instruction (`step_noNewP`: it marks nobody) or replaces one account (`ListL.forall_set`).
-/
import Mfi.Lemmas.WorldTxL

namespace Mfi.World
open Mfi Mfi.Fx Mfi.Bank Mfi.Account Mfi.Gen

def inRecv (a : AcctV) : Bool := hasFlag a.flags ACCOUNT_IN_RECEIVERSHIP

theorem inFlash_bit (a : AcctV) : inFlash a = a.flags.testBit 1 := hasFlag_bit FLASH_bit a.flags

theorem inRecv_disable (a : AcctV) (slots : List Slot) :
    inRecv { a with slots := slots, flags := a.flags ||| ACCOUNT_DISABLED.toNat } = inRecv a :=
  (hasFlag_or DISABLED_bit RECV_bit a.flags).trans (Bool.or_false _)

theorem step_noNewRecv (w : WState) (op : WOp) : NoNewP inRecv w (w.step op) :=
  step_noNewP inRecv (fun _ _ => rfl) (fun a slots hx => inRecv_disable a slots ▸ hx) (fun _ _ _ _ _ _ _ _ h => (transferIx_marks h).2.1) w op

theorem stepIn_noNewRecv {tx : List TOp} {i : Nat} {t : TOp} {w w' : WState} (hs1 : isStartLiq t = false) (hs2 : isStartDelev t = false)
    (h : w.stepIn tx i t = some w') : NoNewP inRecv w w' := by
  rcases stepIn_cases h with ⟨op, rfl, hs⟩ | ⟨ai, a, a', ha, rfl, _, k⟩
  · exact step?_some hs ▸ step_noNewRecv w op
  refine set_noNewP ha fun hx => ?_
  cases k with
  | flash _ hr => exact hr.symm.trans hx
  | start hk => rcases hk with ⟨_, _, _, rfl⟩ | ⟨_, _, _, rfl⟩ <;> [cases hs1; cases hs2]
  | end_ _ _ _ hr => exact Bool.noConfusion (hr.symm.trans hx)

/-- the transaction is a liquidation bracket opened for account `k` -/
structure Bracket (tx : List TOp) (k : Nat) : Prop where
  first : ∃ r ok, tx[0]? = some (.startLiq k r ok)
  last : ((tx.getLast?).map isEndLiq).getD false = true
  allowed : tx.all liqAllowed = true
  single : (tx.drop 1).any isStartLiq = false

/-- the transaction is a forced-deleverage bracket opened for account `k` -/
structure BracketD (tx : List TOp) (k : Nat) : Prop where
  first : ∃ r ok, tx[0]? = some (.startDelev k r ok)
  last : ((tx.getLast?).map isEndDelev).getD false = true
  allowed : tx.all delevAllowed = true
  single : (tx.drop 1).any isStartDelev = false

def AnyBracket (tx : List TOp) (k : Nat) : Prop := Bracket tx k ∨ BracketD tx k

/-- every account in receivership at position `i` is THE account this transaction's bracket was opened for, and the end is still to come -/
def RecvInv (tx : List TOp) (i : Nat) (w : WState) : Prop :=
  ∀ (k : Nat) (a : AcctV), w.accts[k]? = some a → inRecv a = true → i < tx.length ∧ AnyBracket tx k

/-- the verdict of `validate_instructions`, for either pair: the only start is the first instruction -/
theorem shape_first {isStart : TOp → Bool} {tx rest : List TOp} {t0 t : TOp} {i : Nat} (etx : tx = t0 :: rest)
    (hsingle : rest.any isStart = false) (ht : tx[i]? = some t) (hst : isStart t = true) : i = 0 := by
  cases i with
  | zero => rfl
  | succ j =>
    rw [etx, List.getElem?_cons_succ] at ht
    rw [List.any_eq_true.mpr ⟨t, List.mem_of_getElem? ht, hst⟩] at hsingle; cases hsingle

theorem not_last_of_not_end {isEnd : TOp → Bool} {tx : List TOp} {i : Nat} {t : TOp} (ht : tx[i]? = some t) (hne : isEnd t = false)
    (hl : ((tx.getLast?).map isEnd).getD false = true) : i + 1 < tx.length := by
  have hlt : i < tx.length := (List.getElem?_eq_some_iff.mp ht).1
  rcases Nat.lt_or_ge (i + 1) tx.length with h | h
  · exact h
  · have e : tx.length - 1 = i := by omega
    rw [List.getLast?_eq_getElem?, e, ht] at hl
    simp [hne] at hl

theorem last_is_end {isEnd : TOp → Bool} {tx : List TOp} (hl : ((tx.getLast?).map isEnd).getD false = true) :
    ∃ tl, tx[tx.length - 1]? = some tl ∧ isEnd tl = true := by
  rw [List.getLast?_eq_getElem?] at hl
  cases h : tx[tx.length - 1]? with
  | none => rw [h] at hl; cases hl
  | some tl => rw [h] at hl; exact ⟨tl, rfl, hl⟩

theorem bracket_of_startLiq {tx : List TOp} {i ai r : Nat} {ok : Bool} (ht : tx[i]? = some (.startLiq ai r ok)) (hsh : liqShape tx i = .ok ()) :
    Bracket tx ai ∧ i = 0 ∧ 1 < tx.length := by
  obtain ⟨t0, rest, etx, _, hsingle, hlast, hall, hcur⟩ := liqShape_ok hsh
  obtain rfl : i = 0 := shape_first etx hsingle ht rfl
  exact ⟨⟨⟨r, ok, ht⟩, hlast, hall, by rw [etx]; exact hsingle⟩, rfl, by omega⟩

theorem bracket_of_startDelev {tx : List TOp} {i ai r : Nat} {ok : Bool} (ht : tx[i]? = some (.startDelev ai r ok)) (hsh : delevShape tx i = .ok ()) :
    BracketD tx ai ∧ i = 0 ∧ 1 < tx.length := by
  obtain ⟨t0, rest, etx, _, hsingle, hlast, hall, hcur⟩ := delevShape_ok hsh
  obtain rfl : i = 0 := shape_first etx hsingle ht rfl
  exact ⟨⟨⟨r, ok, ht⟩, hlast, hall, by rw [etx]; exact hsingle⟩, rfl, by omega⟩

theorem anyBracket_unique {tx : List TOp} {k j : Nat} (h1 : AnyBracket tx k) (h2 : AnyBracket tx j) : k = j := by
  -- both name the account of the first instruction
  rcases h1 with h1 | h1 <;> rcases h2 with h2 | h2 <;> obtain ⟨_, _, e1⟩ := h1.first <;> obtain ⟨_, _, e2⟩ := h2.first <;>
    rw [e1] at e2 <;> cases e2 <;> rfl

theorem anyBracket_next {tx : List TOp} {i k : Nat} {t : TOp} (ht : tx[i]? = some t) (h1 : isEndLiq t = false) (h2 : isEndDelev t = false)
    (hb : AnyBracket tx k) : i + 1 < tx.length := by
  rcases hb with hb | hb
  · exact not_last_of_not_end ht h1 hb.last
  · exact not_last_of_not_end ht h2 hb.last

theorem anyBracket_of_start {tx : List TOp} {i ai : Nat} {t : TOp} (ht : tx[i]? = some t)
    (hk : (liqShape tx i = .ok () ∧ ∃ r ok, t = .startLiq ai r ok) ∨ (delevShape tx i = .ok () ∧ ∃ r ok, t = .startDelev ai r ok)) :
    AnyBracket tx ai ∧ i = 0 ∧ 1 < tx.length := by
  rcases hk with ⟨hsh, _, _, rfl⟩ | ⟨hsh, _, _, rfl⟩
  · exact (bracket_of_startLiq ht hsh).imp_left Or.inl
  · exact (bracket_of_startDelev ht hsh).imp_left Or.inr

theorem stepIn_recv {tx : List TOp} {i : Nat} {t : TOp} {w w' : WState} (ht : tx[i]? = some t)
    (h : w.stepIn tx i t = some w') (hp : RecvInv tx i w) : RecvInv tx (i + 1) w' := by
  -- what is neither a start nor an end marks nobody, and is not the last instruction of a bracket
  have other : isStartLiq t = false → isStartDelev t = false → isEndLiq t = false → isEndDelev t = false → RecvInv tx (i + 1) w' := by
    intro h1 h2 h3 h4 k a' hk hfl
    obtain ⟨y, hy, hfy⟩ := stepIn_noNewRecv h1 h2 h k a' hk hfl
    exact ⟨anyBracket_next ht h3 h4 (hp k y hy hfy).2, (hp k y hy hfy).2⟩
  rcases stepIn_cases h with ⟨op, rfl, _⟩ | ⟨ai, a, a', ha, rfl, _, k⟩
  · exact other rfl rfl rfl rfl
  cases k with
  | flash hk => rcases hk with ⟨_, _, rfl⟩ | ⟨_, _, rfl⟩ <;> exact other rfl rfl rfl rfl
  | start hk =>
    obtain ⟨hbr, rfl, hlen⟩ := anyBracket_of_start ht hk
    exact ListL.forall_set ha hp (fun k x _ hq hx => ⟨hlen, (hq hx).2⟩) (fun _ => ⟨hlen, hbr⟩)
  -- an end leaves nobody in receivership: its own account is cleared, and any other would be the bracket's account too
  | end_ _ _ hr0 hr =>
    have hba := (hp ai a ha hr0).2
    exact ListL.forall_set ha hp (fun k x hk hq hx => absurd (anyBracket_unique (hq hx).2 hba) hk)
      (fun hx => Bool.noConfusion (hr.symm.trans hx))

theorem recvInv_zero {w : WState} (tx : List TOp) (h0 : ∀ (k : Nat) (a : AcctV), w.accts[k]? = some a → inRecv a = false) : RecvInv tx 0 w :=
  fun k a hk hf => by rw [h0 k a hk] at hf; cases hf

theorem runTx_noRecv {w w' : WState} {tx : List TOp} (h : w.runTx tx = some w')
    (h0 : ∀ (k : Nat) (a : AcctV), w.accts[k]? = some a → inRecv a = false) :
    ∀ (k : Nat) (a : AcctV), w'.accts[k]? = some a → inRecv a = false := by
  have hp := (runTx_ind (I := RecvInv tx) (fun _ _ _ _ => stepIn_recv) h (recvInv_zero tx h0)).1
  intro k a hk
  cases hfa : inRecv a with
  | false => rfl
  | true => exact absurd (hp k a hk hfa).1 (Nat.lt_irrefl _)

/-- in receivership with anything but the given snapshot and receiver -/
def badRecv (cache : Risk.PreCache) (r : Nat) (a : AcctV) : Bool :=
  inRecv a && !(decide (a.recCache = cache) && decide (a.recReceiver = r))

theorem step_noNewBad (cache : Risk.PreCache) (r : Nat) (w : WState) (op : WOp) : NoNewP (badRecv cache r) w (w.step op) :=
  step_noNewP (badRecv cache r) (fun _ _ => rfl)
    (fun a slots hx => by unfold badRecv at hx ⊢; rw [inRecv_disable] at hx; exact hx)
    (fun _ _ _ _ _ _ _ _ h => by unfold badRecv; rw [show inRecv _ = false from (transferIx_marks h).2.1.1, show inRecv _ = false from (transferIx_marks h).2.1.2]; exact ⟨rfl, rfl⟩) w op

/-- every account in receivership carries the given snapshot and receiver -/
def CacheInv (cache : Risk.PreCache) (r : Nat) (w : WState) : Prop :=
  ∀ (k : Nat) (a : AcctV), w.accts[k]? = some a → inRecv a = true → a.recCache = cache ∧ a.recReceiver = r

theorem cacheInv_iff {cache : Risk.PreCache} {r : Nat} {w : WState} :
    CacheInv cache r w ↔ ∀ (k : Nat) (a : AcctV), w.accts[k]? = some a → badRecv cache r a = false := by
  have e : ∀ a : AcctV, badRecv cache r a = false ↔ (inRecv a = true → a.recCache = cache ∧ a.recReceiver = r) := by
    intro a; unfold badRecv; cases inRecv a <;> simp
  exact ⟨fun h k a hk => (e a).mpr (h k a hk), fun h k a hk => (e a).mp (h k a hk)⟩

/-- past the first instruction (no start can sit there) the snapshot in the record of an account in receivership stays -/
theorem stepIn_cache {tx : List TOp} {i : Nat} {t : TOp} {w w' : WState} {cache : Risk.PreCache} {r : Nat} (hi : 1 ≤ i) (ht : tx[i]? = some t)
    (h : w.stepIn tx i t = some w') (hc : CacheInv cache r w) : CacheInv cache r w' := by
  rcases stepIn_cases h with ⟨op, rfl, hs⟩ | ⟨ai, a, a', ha, rfl, _, k⟩
  · exact cacheInv_iff.mpr (noNewP_none (step?_some hs ▸ step_noNewBad cache r w op) (cacheInv_iff.mp hc))
  refine ListL.forall_set ha hc (fun _ _ _ hq => hq) fun hx => ?_
  cases k with
  | flash _ hr hrec => rw [hrec.1, hrec.2]; exact hc ai a ha (hr.symm.trans hx)
  | start hk => have := (anyBracket_of_start ht hk).2.1; omega
  | end_ _ _ _ hr => exact Bool.noConfusion (hr.symm.trans hx)

theorem stepIn_recv_cache {tx : List TOp} {cache : Risk.PreCache} {r : Nat} (i : Nat) (t : TOp) (w w' : WState) (ht : tx[i]? = some t)
    (h : w.stepIn tx i t = some w') (hi : 1 ≤ i ∧ RecvInv tx i w ∧ CacheInv cache r w) :
    1 ≤ i + 1 ∧ RecvInv tx (i + 1) w' ∧ CacheInv cache r w' :=
  ⟨Nat.le_add_left 1 i, stepIn_recv ht h hi.2.1, stepIn_cache hi.1 ht h hi.2.2⟩

theorem runFrom_at_recv (tx : List TOp) (cache : Risk.PreCache) (r : Nat) : ∀ (rest : List TOp) (i : Nat) (w w' : WState), 1 ≤ i → tx.drop i = rest →
    WState.runFrom tx i rest w = some w' → RecvInv tx i w → CacheInv cache r w →
    ∀ (j : Nat) (t : TOp), i ≤ j → tx[j]? = some t → ∃ (wj wj' : WState), RecvInv tx j wj ∧ CacheInv cache r wj ∧ wj.stepIn tx j t = some wj' := by
  intro rest i w w' hi hd h hp hc j t hij hj
  obtain ⟨wj, wj', ⟨_, hpj, hcj⟩, hs⟩ := (runFrom_ind stepIn_recv_cache rest i w w' hd h ⟨hi, hp, hc⟩).2 j t hij hj
  exact ⟨wj, wj', hpj, hcj, hs⟩

theorem runFrom_at_recv_b (tx : List TOp) (w0 : WState) (cache : Risk.PreCache) (r : Nat) : ∀ (rest : List TOp) (i : Nat) (w w' : WState), 1 ≤ i → tx.drop i = rest →
    w0.before tx i = some w → WState.runFrom tx i rest w = some w' → RecvInv tx i w → CacheInv cache r w →
    ∀ (j : Nat) (t : TOp), i ≤ j → tx[j]? = some t →
      ∃ (wj wj' : WState), w0.before tx j = some wj ∧ RecvInv tx j wj ∧ CacheInv cache r wj ∧ wj.stepIn tx j t = some wj' := by
  intro rest i w w' hi hd hb h hp hc j t hij hj
  obtain ⟨wj, wj', hbj, ⟨_, hpj, hcj⟩, hs⟩ := (runFrom_ind_b stepIn_recv_cache rest i w w' hd hb h ⟨hi, hp, hc⟩).2 j t hij hj
  exact ⟨wj, wj', hbj, hpj, hcj, hs⟩

theorem isEndLiq_eq {t : TOp} (h : isEndLiq t = true) : ∃ ai signer rok wok feeMax, t = .endLiq ai signer rok wok feeMax := by
  cases t with
  | endLiq ai signer rok wok feeMax => exact ⟨ai, signer, rok, wok, feeMax, rfl⟩
  | _ => cases h

theorem isEndDelev_eq {t : TOp} (h : isEndDelev t = true) : ∃ ai signer rok, t = .endDelev ai signer rok := by
  cases t with
  | endDelev ai signer rok => exact ⟨ai, signer, rok, rfl⟩
  | _ => cases h

/-- The bracket of a committed transaction: if a committed transaction (started with nobody in receivership) opens with
    `start_liquidation` of account `a0` naming receiver `r`, then the account was not healthy at maintenance level on the state the
    transaction found, the transaction's LAST instruction is an `end_liquidation` of the SAME account signed by `r`, and that end
    compared the portfolio as the bracket left it with exactly the snapshot the start took -/
theorem tx_liquidation_closed {w w' : WState} {tx : List TOp} (h : w.runTx tx = some w')
    (h0 : ∀ (k : Nat) (a : AcctV), w.accts[k]? = some a → inRecv a = false)
    {a0 r : Nat} {ok : Bool} (hs : tx[0]? = some (.startLiq a0 r ok)) :
    ∃ (a : AcctV) (ps0 : List Risk.Pos) (cache : Risk.PreCache),
      w.accts[a0]? = some a ∧ (w.rctx a ok r true 0).portfolio = .ok ps0 ∧ Risk.startReceivership ps0 false = .ok cache ∧
      ∃ (signer : Nat) (rok wok : Bool) (feeMax : Int), tx[tx.length - 1]? = some (.endLiq a0 signer rok wok feeMax) ∧ signer = r ∧
        ∃ (wl : WState) (al : AcctV) (psl : List Risk.Pos) (seized repaid : Int), w.before tx (tx.length - 1) = some wl ∧ wl.accts[a0]? = some al ∧
          (wl.rctx al rok signer wok feeMax).portfolio = .ok psl ∧ Risk.endLiquidation cache psl feeMax = .ok (seized, repaid) := by
  cases tx with
  | nil => cases hs
  | cons t0 rest =>
    cases hs
    -- the first step: the start, whose snapshot the only account in receivership carries
    obtain ⟨w1, h1, hb1, hrun⟩ := runTx_cons h
    have hp1 := stepIn_recv (i := 0) rfl h1 (recvInv_zero _ h0)
    obtain ⟨a, o, ha, ho, rfl⟩ := stepIn_startLiq h1
    obtain ⟨_, _, hshape, ⟨ps0, hps0, hcache⟩, _, erecv⟩ := startLiquidation_ok ho
    obtain ⟨hbr, _, hlen⟩ := bracket_of_startLiq (i := 0) rfl hshape
    have hc1 : CacheInv o.cache r { w with accts := w.accts.set a0 { a with flags := o.flags, recReceiver := o.receiver, recCache := o.cache } } :=
      ListL.forall_set ha h0 (fun k x _ hq hx => by rw [hq] at hx; cases hx) (fun _ => ⟨rfl, erecv⟩)
    -- the last instruction: an end, which ran on a state reached with both invariants
    obtain ⟨tl, hl, hend⟩ := last_is_end hbr.last
    obtain ⟨aj, signer, rok, wok, feeMax, rfl⟩ := isEndLiq_eq hend
    obtain ⟨wl, wl', hbl, hrl, hcl, hsl⟩ := runFrom_at_recv_b _ w o.cache r rest 1 _ w' (Nat.le_refl 1) rfl hb1 hrun hp1 hc1 _ _
      (Nat.le_sub_one_of_lt hlen) hl
    obtain ⟨al, oe, hal, hoe, _⟩ := stepIn_endLiq hsl
    obtain ⟨_, hrecv, hrr, _, _, ⟨psl, hpsl, hendl⟩, _⟩ := endLiquidation_ok hoe
    obtain ⟨hcache', hrecv'⟩ := hcl aj al hal hrecv
    obtain rfl : aj = a0 := anyBracket_unique (hrl aj al hal hrecv).2 (Or.inl hbr)
    exact ⟨a, ps0, o.cache, ha, hps0, hcache, signer, rok, wok, feeMax, hl, hrr.symm.trans hrecv', wl, al, psl, oe.seized, oe.repaid, hbl, hal,
      hpsl, hcache' ▸ hendl⟩

/-- The forced-deleverage bracket of a committed transaction: if a committed transaction (started with nobody in receivership)
    opens with `start_deleverage` of account `a0` signed by `r`, then `r` is the group's risk admin and the account is of this group,
    the transaction's LAST instruction is an `end_deleverage` of the SAME account signed by `r`, and that end compared the
    portfolio as the bracket left it with exactly the snapshot the start took -/
theorem tx_deleverage_closed {w w' : WState} {tx : List TOp} (h : w.runTx tx = some w')
    (h0 : ∀ (k : Nat) (a : AcctV), w.accts[k]? = some a → inRecv a = false)
    {a0 r : Nat} {ok : Bool} (hs : tx[0]? = some (.startDelev a0 r ok)) :
    ∃ (a : AcctV) (ps0 : List Risk.Pos) (cache : Risk.PreCache),
      w.accts[a0]? = some a ∧ w.g.riskAdmin = r ∧ a.group = w.g.key ∧
      (w.rctx a ok r true 0).portfolio = .ok ps0 ∧ Risk.startReceivership ps0 true = .ok cache ∧
      ∃ (signer : Nat) (rok : Bool), tx[tx.length - 1]? = some (.endDelev a0 signer rok) ∧ signer = r ∧
        ∃ (wl : WState) (al : AcctV) (psl : List Risk.Pos) (seized repaid : Int), w.before tx (tx.length - 1) = some wl ∧ wl.accts[a0]? = some al ∧
          (wl.rctx al rok signer true 0).portfolio = .ok psl ∧ Risk.endDeleverage cache psl = .ok (seized, repaid) := by
  cases tx with
  | nil => cases hs
  | cons t0 rest =>
    cases hs
    obtain ⟨w1, h1, hb1, hrun⟩ := runTx_cons h
    have hp1 := stepIn_recv (i := 0) rfl h1 (recvInv_zero _ h0)
    obtain ⟨a, o, ha, ho, rfl⟩ := stepIn_startDelev h1
    obtain ⟨⟨_, hgrp, hadm⟩, _, hshape, ⟨ps0, hps0, hcache⟩, _, erecv⟩ := startDeleverage_ok ho
    obtain ⟨hbr, _, hlen⟩ := bracket_of_startDelev (i := 0) rfl hshape
    have hc1 : CacheInv o.cache r { w with accts := w.accts.set a0 { a with flags := o.flags, recReceiver := o.receiver, recCache := o.cache } } :=
      ListL.forall_set ha h0 (fun k x _ hq hx => by rw [hq] at hx; cases hx) (fun _ => ⟨rfl, erecv⟩)
    obtain ⟨tl, hl, hend⟩ := last_is_end hbr.last
    obtain ⟨aj, signer, rok, rfl⟩ := isEndDelev_eq hend
    obtain ⟨wl, wl', hbl, hrl, hcl, hsl⟩ := runFrom_at_recv_b _ w o.cache r rest 1 _ w' (Nat.le_refl 1) rfl hb1 hrun hp1 hc1 _ _
      (Nat.le_sub_one_of_lt hlen) hl
    obtain ⟨al, oe, hal, hoe, _⟩ := stepIn_endDelev hsl
    obtain ⟨_, hrecv, hrr, _, ⟨psl, hpsl, hendl⟩, _⟩ := endDeleverage_ok hoe
    obtain ⟨hcache', hrecv'⟩ := hcl aj al hal hrecv
    obtain rfl : aj = a0 := anyBracket_unique (hrl aj al hal hrecv).2 (Or.inr hbr)
    exact ⟨a, ps0, o.cache, ha, hadm, hgrp, hps0, hcache, signer, rok, hl, hrr.symm.trans hrecv', wl, al, psl, oe.seized, oe.repaid, hbl, hal,
      hpsl, hcache' ▸ hendl⟩

theorem anyBracket_inside {tx : List TOp} {i k : Nat} {t : TOp} (ht : tx[i]? = some t) (hb : AnyBracket tx k)
    (h1 : isStartLiq t = false) (h2 : isStartDelev t = false) : 0 < i := by
  cases i with
  | succ j => exact Nat.succ_pos j
  | zero =>
    rcases hb with hb | hb
    · obtain ⟨_, _, e⟩ := hb.first; rw [ht] at e; cases e; cases h1
    · obtain ⟨_, _, e⟩ := hb.first; rw [ht] at e; cases e; cases h2

/-- a user instruction of a committed transaction (started with nobody in receivership) ran on some reached state, and if the
    account was in receivership there, the transaction is THAT account's bracket and the instruction sits strictly inside it -/
theorem tx_user_in_bracket {w w' : WState} {tx : List TOp} (h : w.runTx tx = some w')
    (h0 : ∀ (k : Nat) (a : AcctV), w.accts[k]? = some a → inRecv a = false) {i : Nat} {op : WOp} (hi : tx[i]? = some (.ix op))
    {ai bi signer : Nat} {vault : Int} {run : Ctx → Res Out} {dust : Account.Slot → Int × Int} (hu : UserIx op ai bi signer vault run dust) :
    ∃ (wi : WState) (a : AcctV) (b : WBank) (o : Out), w.before tx i = some wi ∧ wi.accts[ai]? = some a ∧ wi.banks[bi]? = some b ∧
      run (wi.ctx a b signer b.v.liquidityVault vault) = .ok o ∧ (inRecv a = true → AnyBracket tx ai ∧ 0 < i ∧ i + 1 < tx.length) := by
  obtain ⟨wi, wi', hbef, hpi, hst⟩ := (runTx_ind (I := RecvInv tx) (fun _ _ _ _ => stepIn_recv) h (recvInv_zero tx h0)).2 i _ hi
  obtain ⟨a, b, o, ha, hb, ho⟩ := accepted_user hu (stepIn_accepted hst)
  -- a whole instruction is neither the start (so not first) nor the end (so not last) of the bracket
  exact ⟨wi, a, b, o, hbef, ha, hb, ho, fun hr =>
    ⟨(hpi ai a ha hr).2, anyBracket_inside hi (hpi ai a ha hr).2 rfl rfl, anyBracket_next hi rfl rfl (hpi ai a ha hr).2⟩⟩

theorem tx_withdraw_in_bracket {w w' : WState} {tx : List TOp} (h : w.runTx tx = some w')
    (h0 : ∀ (k : Nat) (a : AcctV), w.accts[k]? = some a → inRecv a = false)
    {i ai bi signer : Nat} {amount vault : Int} {all : Bool} (hi : tx[i]? = some (.ix (.withdraw ai bi signer amount all vault))) :
    ∃ (wi : WState) (a : AcctV) (b : WBank) (o : Out), w.before tx i = some wi ∧ wi.accts[ai]? = some a ∧ wi.banks[bi]? = some b ∧
      withdraw (wi.ctx a b signer b.v.liquidityVault vault) amount all = .ok o ∧
      (inRecv a = true → AnyBracket tx ai ∧ 0 < i ∧ i + 1 < tx.length) :=
  tx_user_in_bracket h h0 hi (.withdraw ..)

theorem tx_repay_in_bracket {w w' : WState} {tx : List TOp} (h : w.runTx tx = some w')
    (h0 : ∀ (k : Nat) (a : AcctV), w.accts[k]? = some a → inRecv a = false)
    {i ai bi signer : Nat} {amount : Int} {all : Bool} (hi : tx[i]? = some (.ix (.repay ai bi signer amount all))) :
    ∃ (wi : WState) (a : AcctV) (b : WBank) (o : Out), w.before tx i = some wi ∧ wi.accts[ai]? = some a ∧ wi.banks[bi]? = some b ∧
      repay (wi.ctx a b signer b.v.liquidityVault 0) amount all = .ok o ∧
      (inRecv a = true → AnyBracket tx ai ∧ 0 < i ∧ i + 1 < tx.length) :=
  tx_user_in_bracket h h0 hi (.repay ..)

/-- a receiver is recorded although the account is NOT in receivership -/
def strayRecv (a : AcctV) : Bool := decide (a.recReceiver ≠ 0) && !inRecv a

theorem step_noNewStray (w : WState) (op : WOp) : NoNewP strayRecv w (w.step op) :=
  step_noNewP strayRecv (fun _ _ => rfl)
    (fun a slots hx => by unfold strayRecv at hx ⊢; rw [inRecv_disable] at hx; exact hx)
    (fun _ _ _ _ _ _ _ _ h => by unfold strayRecv; rw [(transferIx_marks h).2.2.1, (transferIx_marks h).2.2.2]; exact ⟨rfl, rfl⟩) w op

/-- every account of the state: a receiver recorded means in receivership -/
def NoStray (w : WState) : Prop := ∀ (k : Nat) (a : AcctV), w.accts[k]? = some a → strayRecv a = false

theorem stepIn_noStray {tx : List TOp} {i : Nat} {t : TOp} {w w' : WState} (h : w.stepIn tx i t = some w') (hw : NoStray w) : NoStray w' := by
  rcases stepIn_cases h with ⟨op, rfl, hs⟩ | ⟨ai, a, a', ha, rfl, _, k⟩
  · exact noNewP_none (step?_some hs ▸ step_noNewStray w op) hw
  refine ListL.forall_set ha hw (fun _ _ _ hq => hq) ?_
  unfold strayRecv
  -- the flash-loan pair keeps the record and the mark; a start sets the mark; an end clears the receiver
  cases k with
  | flash _ hr hrec => rw [hrec.1, show inRecv a' = inRecv a from hr]; exact hw ai a ha
  | start _ _ hr => rw [show inRecv a' = true from hr]; exact Bool.and_false _
  | end_ _ _ _ _ hrec => rw [hrec]; rfl

end Mfi.World
