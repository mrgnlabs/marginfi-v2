/-
  No free value: no operation or round trip pays out more than it debits (property C03; Mfi/Props/C03.lean restates the
  results of this file under the same names and says what each claims about marginfi-v2).

  Values are compared exactly, in units of 2^-96 tokens: a position's asset value is
  `shares·asv` (product of two 2^-48 bit patterns), `n` tokens are `n·2^96`. Theorems are about
  Mfi/Model/Bank.lean, diffed against the real BankAccountWrapper by the `wrapper` family.
-/
import Mfi.Model.Token
import Mfi.Lemmas.BankL
import Mfi.Lemmas.TagL

namespace Mfi.FreeL
open Mfi Mfi.Fx Mfi.Bank Mfi.Gen Mfi.Token

/-- net position value of a balance at the bank's share values, in 2^-96 token units -/
def netValue (b : Bank) (x : Balance) : Int := x.a * b.asv - x.l * b.lsv

theorem shares_value_le {v sv s : Int} (hv : 0 ≤ v) (hsv : 0 < sv) (h : div? v sv = some s) :
    s * sv ≤ v * ONE ∧ v * ONE < (s + 1) * sv ∧ 0 ≤ s := by
  obtain ⟨s0, f1, f2⟩ := div?_floor hv hsv h
  exact ⟨f1, by rw [Int.add_mul, Int.one_mul]; exact f2, s0⟩

theorem assetShares_spec {b : Bank} {v s : Int} (hv : 0 ≤ v) (hsv : 0 < b.asv) (h : assetShares b v = .ok s) :
    s * b.asv ≤ v * ONE ∧ v * ONE < (s + 1) * b.asv ∧ 0 ≤ s := by
  rw [assetShares, if_neg (Int.ne_of_gt hsv)] at h
  exact shares_value_le hv hsv (math_ok h)

theorem liabShares_spec {b : Bank} {v s : Int} (hv : 0 ≤ v) (hsv : 0 < b.lsv) (h : liabShares b v = .ok s) :
    s * b.lsv ≤ v * ONE ∧ v * ONE < (s + 1) * b.lsv ∧ 0 ≤ s :=
  shares_value_le hv hsv (math_ok h)

/-- the net value moves by the value booked (`Moved.net`), which `booked_le` bounds by `delta` -/
theorem increase_no_gain {b0 b' : Bank} {x0 x' : Balance} {now delta : Int} {t : IncType}
    (h : increaseBalance b0 x0 now delta t = .ok (b', x'))
    (hd : 0 ≤ delta) (hasv : 0 < b0.asv) (hlsv : 0 < b0.lsv) (hl : 0 ≤ x0.l) :
    netValue b' x' - netValue b0 x0 ≤ delta * ONE := by
  have hb := booked_le hd (mulfloor_nonneg hl (le_of_lt hlsv)) (le_of_lt hasv) (le_of_lt hlsv)
  unfold netValue
  rw [(increase_moved h).net, Int.neg_mul]; omega

/-- the net value falls by the value booked, which `lt_booked` bounds from below by `delta` less one share of each kind -/
theorem decrease_bounded_gain {b0 b' : Bank} {x0 x' : Balance} {now delta : Int} {t : DecType}
    (h : decreaseBalance b0 x0 now delta t = .ok (b', x'))
    (hd : 0 ≤ delta) (hasv : 0 < b0.asv) (hlsv : 0 < b0.lsv) (ha0 : 0 ≤ x0.a) :
    delta * ONE - (b0.asv + b0.lsv) < netValue b0 x0 - netValue b' x' := by
  have hb := lt_booked hd (mulfloor_nonneg ha0 (le_of_lt hasv)) hlsv hasv
  unfold netValue
  rw [(decrease_moved h).net, Int.neg_mul]; omega

theorem withdraw_all_rounds_down {b0 b' : Bank} {x0 x' : Balance} {now amt : Int}
    (h : withdrawAll b0 x0 now = .ok (b', x', amt)) (hasv : 0 ≤ b0.asv) (ha : 0 ≤ x0.a) :
    amt * ONE * ONE ≤ x0.a * b0.asv ∧ x'.a = 0 ∧ x'.l = 0 ∧ x'.active = false ∧
    (∃ curL, liabAmount b0 x0.l = .ok curL ∧ isZeroTol curL ZERO_AMOUNT_THRESHOLD = true) := by
  obtain ⟨_, rfl, rfl, _, _, _, hz, hl, _⟩ := withdrawAll_closed h
  exact ⟨mulfloor2_le _, rfl, rfl, rfl, _, hl, hz⟩

theorem repay_all_rounds_up {b0 b' : Bank} {x0 x' : Balance} {now amt : Int}
    (h : repayAll b0 x0 now = .ok (b', x', amt)) :
    x0.l * b0.lsv - ONE < amt * ONE * ONE ∧ x'.a = 0 ∧ x'.l = 0 ∧ x'.active = false := by
  obtain ⟨_, rfl, rfl, _⟩ := repayAll_closed h
  refine ⟨?_, rfl, rfl, rfl⟩
  -- charge·2^48 = ⌈cur⌉ ≥ cur = ⌊l·lsv / 2^48⌋ > l·lsv / 2^48 − 1
  have h1 := Int.mul_le_mul_of_nonneg_right (ceil_bounds (x0.l * b0.lsv / ONE)).1 (le_of_lt ONE_pos)
  have h2 := mulfloor_gt (x0.l * b0.lsv)
  omega

/-! ### the potential argument: sequences of operations on one position -/

/-- a user's holdings relevant to one bank: wallet tokens and the position -/
structure Holder where
  wallet : Int
  bal : Balance

inductive UserOp
  | deposit (n : Int)   -- tokens (pre-fee amount leaving the wallet is ≥ n; equality for fee-less mints)
  | withdraw (n : Int)
  | borrow (n : Int)
  | repay (n : Int)
  deriving Repr

/-- potential: wallet tokens + net position value, in 2^-96 token units -/
def phi (b : Bank) (u : Holder) : Int := u.wallet * ONE * ONE + netValue b u.bal

/-- one user operation on the model (token legs: exactly the booked amount; a Token-2022 transfer
    fee only ever takes MORE from the wallet on the way in, see `prefee_covers` below) -/
def applyOp (b : Bank) (u : Holder) (now : Int) (op : UserOp) : Res (Bank × Holder) :=
  match op with
  | .deposit n => (increaseBalance b u.bal now (ofInt n) .depositOnly).map fun (b', x') => (b', ⟨u.wallet - n, x'⟩)
  | .repay n => (increaseBalance b u.bal now (ofInt n) .repayOnly).map fun (b', x') => (b', ⟨u.wallet - n, x'⟩)
  | .withdraw n => (decreaseBalance b u.bal now (ofInt n) .withdrawOnly).map fun (b', x') => (b', ⟨u.wallet + n, x'⟩)
  | .borrow n => (decreaseBalance b u.bal now (ofInt n) .borrowOnly).map fun (b', x') => (b', ⟨u.wallet + n, x'⟩)

def opAmount : UserOp → Int
  | .deposit n | .withdraw n | .borrow n | .repay n => n

theorem map_ok {α β : Type} {r : Res α} {f : α → β} {y : β} (h : r.map f = .ok y) : ∃ a, r = .ok a ∧ f a = y :=
  Res.map_ok h

theorem inc_sv {b0 b' : Bank} {x0 x' : Balance} {now delta : Int} {t : IncType}
    (h : increaseBalance b0 x0 now delta t = .ok (b', x')) : b'.asv = b0.asv ∧ b'.lsv = b0.lsv :=
  ⟨(increase_moved h).asv, (increase_moved h).lsv⟩

theorem dec_sv {b0 b' : Bank} {x0 x' : Balance} {now delta : Int} {t : DecType}
    (h : decreaseBalance b0 x0 now delta t = .ok (b', x')) : b'.asv = b0.asv ∧ b'.lsv = b0.lsv :=
  ⟨(decrease_moved h).asv, (decrease_moved h).lsv⟩

/-- also at deposit share value zero (a wiped-out bank) -/
theorem inc_nonneg0 {b0 b' : Bank} {x0 x' : Balance} {now delta : Int} {t : IncType}
    (h : increaseBalance b0 x0 now delta t = .ok (b', x'))
    (hd : 0 ≤ delta) (hasv : 0 ≤ b0.asv) (hlsv : 0 < b0.lsv) (ha : 0 ≤ x0.a) (hl : 0 ≤ x0.l) : 0 ≤ x'.a ∧ 0 ≤ x'.l := by
  have := booked_shares hd hl hasv hlsv
  rw [(increase_moved h).a, (increase_moved h).l]; omega

theorem inc_nonneg {b0 b' : Bank} {x0 x' : Balance} {now delta : Int} {t : IncType}
    (h : increaseBalance b0 x0 now delta t = .ok (b', x'))
    (hd : 0 ≤ delta) (hasv : 0 < b0.asv) (hlsv : 0 < b0.lsv) (ha : 0 ≤ x0.a) (hl : 0 ≤ x0.l) :
    0 ≤ x'.a ∧ 0 ≤ x'.l := inc_nonneg0 h hd (le_of_lt hasv) hlsv ha hl

theorem dec_nonneg {b0 b' : Bank} {x0 x' : Balance} {now delta : Int} {t : DecType}
    (h : decreaseBalance b0 x0 now delta t = .ok (b', x'))
    (hd : 0 ≤ delta) (hasv : 0 < b0.asv) (hlsv : 0 < b0.lsv) (ha : 0 ≤ x0.a) (hl : 0 ≤ x0.l) :
    0 ≤ x'.a ∧ 0 ≤ x'.l := by
  have := booked_shares hd ha (le_of_lt hlsv) hasv
  rw [(decrease_moved h).a, (decrease_moved h).l]; omega

/-- state carried along a history: positive share values, non-negative shares -/
def Good (b : Bank) (u : Holder) : Prop := 0 < b.asv ∧ 0 < b.lsv ∧ 0 ≤ u.bal.a ∧ 0 ≤ u.bal.l

theorem inc_gain_le {b b' : Bank} {u : Holder} {x' : Balance} {now n : Int} {t : IncType}
    (h : increaseBalance b u.bal now (ofInt n) t = .ok (b', x')) (hg : Good b u) (hn : 0 ≤ n) :
    phi b' ⟨u.wallet - n, x'⟩ ≤ phi b u ∧ Good b' ⟨u.wallet - n, x'⟩ ∧ b'.asv = b.asv ∧ b'.lsv = b.lsv := by
  obtain ⟨hasv, hlsv, ha, hl⟩ := hg
  have hn' : 0 ≤ ofInt n := Int.mul_nonneg hn (le_of_lt ONE_pos)
  have g : netValue b' x' - netValue b u.bal ≤ n * ONE * ONE := increase_no_gain h hn' hasv hlsv hl
  obtain ⟨s1, s2⟩ := inc_sv h
  refine ⟨?_, ⟨s1 ▸ hasv, s2 ▸ hlsv, inc_nonneg h hn' hasv hlsv ha hl⟩, s1, s2⟩
  show (u.wallet - n) * ONE * ONE + netValue b' x' ≤ u.wallet * ONE * ONE + netValue b u.bal
  rw [Int.sub_mul, Int.sub_mul]; omega

theorem dec_gain_lt {b b' : Bank} {u : Holder} {x' : Balance} {now n : Int} {t : DecType}
    (h : decreaseBalance b u.bal now (ofInt n) t = .ok (b', x')) (hg : Good b u) (hn : 0 ≤ n) :
    phi b' ⟨u.wallet + n, x'⟩ < phi b u + (b.asv + b.lsv) ∧ Good b' ⟨u.wallet + n, x'⟩ ∧ b'.asv = b.asv ∧ b'.lsv = b.lsv := by
  obtain ⟨hasv, hlsv, ha, hl⟩ := hg
  have hn' : 0 ≤ ofInt n := Int.mul_nonneg hn (le_of_lt ONE_pos)
  have g : n * ONE * ONE - (b.asv + b.lsv) < netValue b u.bal - netValue b' x' := decrease_bounded_gain h hn' hasv hlsv ha
  obtain ⟨s1, s2⟩ := dec_sv h
  refine ⟨?_, ⟨s1 ▸ hasv, s2 ▸ hlsv, dec_nonneg h hn' hasv hlsv ha hl⟩, s1, s2⟩
  show (u.wallet + n) * ONE * ONE + netValue b' x' < u.wallet * ONE * ONE + netValue b u.bal + (b.asv + b.lsv)
  rw [Int.add_mul, Int.add_mul]; omega

theorem op_gain_le {b b' : Bank} {u u' : Holder} {now : Int} {op : UserOp}
    (h : applyOp b u now op = .ok (b', u')) (hg : Good b u) (hn : 0 ≤ opAmount op) :
    phi b' u' < phi b u + (b.asv + b.lsv) ∧ Good b' u' ∧ b'.asv = b.asv ∧ b'.lsv = b.lsv := by
  have hpos : 0 < b.asv + b.lsv := Int.add_pos hg.1 hg.2.1
  cases op with
  | deposit n | repay n =>
    obtain ⟨⟨b1, x1⟩, hop, hr⟩ := Res.map_ok h; cases hr
    exact (inc_gain_le hop hg hn).imp_left fun g => by omega
  | withdraw n | borrow n =>
    obtain ⟨⟨b1, x1⟩, hop, hr⟩ := Res.map_ok h; cases hr
    exact dec_gain_lt hop hg hn

/-- run a sequence of operations; a failing operation aborts its transaction and is skipped -/
def runOps (b : Bank) (u : Holder) : List (Int × UserOp) → Bank × Holder
  | [] => (b, u)
  | (now, op) :: rest =>
    match applyOp b u now op with
    | .ok (b', u') => runOps b' u' rest
    | .error _ => runOps b u rest

/-- induction over the history with `op_gain_le`; a refused operation changes nothing -/
theorem round_trip (ops : List (Int × UserOp)) :
    ∀ (b : Bank) (u : Holder), Good b u → (∀ p ∈ ops, 0 ≤ opAmount p.2) →
      phi (runOps b u ops).1 (runOps b u ops).2 ≤ phi b u + ops.length * (b.asv + b.lsv) ∧
      (runOps b u ops).1.asv = b.asv ∧ (runOps b u ops).1.lsv = b.lsv := by
  induction ops with
  | nil => intro b u _ _; exact ⟨by simp [runOps], rfl, rfl⟩
  | cons p rest ih =>
    intro b u hg hn
    have hn' : ∀ q ∈ rest, 0 ≤ opAmount q.2 := fun q hq => hn q (List.mem_cons_of_mem _ hq)
    have hpos : 0 < b.asv + b.lsv := Int.add_pos hg.1 hg.2.1
    rw [List.length_cons, Int.natCast_succ, Int.add_mul, Int.one_mul]
    obtain ⟨now, op⟩ := p
    unfold runOps
    cases hres : applyOp b u now op with
    | error e =>
      dsimp only
      obtain ⟨h1, h2⟩ := ih b u hg hn'
      exact ⟨by omega, h2⟩
    | ok r =>
      obtain ⟨b', u'⟩ := r
      dsimp only
      obtain ⟨g1, g2, g3, g4⟩ := op_gain_le hres hg (hn (now, op) (List.mem_cons_self ..))
      obtain ⟨h1, h2⟩ := ih b' u' g2 hn'
      rw [g3, g4] at h1 h2
      exact ⟨by omega, h2⟩

theorem chkU64_some {x y : Int} (h : chkU64 x = some y) : y = x ∧ 0 ≤ x ∧ x ≤ U64MAX :=
  ⟨(ite_some h).2.symm, (ite_some h).1⟩

theorem fee_le {bps maxFee pre f : Int} (hb : 0 ≤ bps) (hm : 0 ≤ maxFee) (hp : 0 ≤ pre) (h : fee bps maxFee pre = some f) :
    0 ≤ f ∧ f ≤ maxFee ∧ f * 10000 ≤ pre * bps + 9999 := by
  have hpb := Int.mul_nonneg hp hb
  unfold fee at h
  by_cases h0 : bps = 0 ∨ pre = 0
  · rw [if_pos h0] at h; injection h with h; omega
  · rw [if_neg h0] at h
    cases hc : chkU64 ((pre * bps + 10000 - 1) / 10000) with
    | none => rw [hc] at h; cases h
    | some raw =>
      rw [hc, Option.map_some] at h; injection h with h
      obtain ⟨er, r0, _⟩ := chkU64_some hc
      omega

theorem preFee_spec {bps maxFee post pre : Int} (hb0 : 0 ≤ bps) (hb1 : bps ≤ 10000) (hp : 0 ≤ post)
    (h : preFee bps maxFee post = some pre) :
    (pre = post + maxFee ∨ post * 10000 ≤ pre * (10000 - bps)) ∧ 0 ≤ pre ∧ (bps = 0 ∨ pre ≤ U64MAX) := by
  unfold preFee at h
  by_cases h0 : bps = 0
  · rw [if_pos h0] at h; injection h with h; subst h
    exact ⟨Or.inr (by rw [h0]; omega), hp, Or.inl h0⟩
  rw [if_neg h0] at h
  by_cases hz : post = 0
  · rw [if_pos hz] at h; injection h with h; subst h
    exact ⟨Or.inr (by omega), Int.le_refl _, Or.inr (by decide)⟩
  rw [if_neg hz] at h
  by_cases hfull : bps = 10000
  · rw [if_pos hfull] at h
    obtain ⟨e, r0, r1⟩ := chkU64_some h
    exact ⟨Or.inl (by omega), by omega, Or.inr (by omega)⟩
  rw [if_neg hfull, if_neg (by omega : ¬ (10000 - bps < 0))] at h
  have hD : 0 < 10000 - bps := by omega
  dsimp only at h
  by_cases hcap : (post * 10000 + (10000 - bps) - 1) / (10000 - bps) - post ≥ maxFee
  · rw [if_pos hcap] at h
    obtain ⟨e, r0, r1⟩ := chkU64_some h
    exact ⟨Or.inl e, by omega, Or.inr (by omega)⟩
  · rw [if_neg hcap] at h
    obtain ⟨e, r0, r1⟩ := chkU64_some h
    -- pre = ⌈post·10000 / D⌉
    have := Int.lt_ediv_add_one_mul_self (post * 10000 + (10000 - bps) - 1) hD
    rw [← e, Int.add_mul, Int.one_mul] at this
    exact ⟨Or.inr (by omega), by omega, Or.inr (by omega)⟩

theorem prefee_covers {bps maxFee post pre f : Int} (hb0 : 0 ≤ bps) (hb1 : bps ≤ 10000) (hm : 0 ≤ maxFee)
    (hp : 0 ≤ post) (h : preFee bps maxFee post = some pre) (hf : fee bps maxFee pre = some f) :
    post ≤ pre - f := by
  obtain ⟨hpre, hpre0, _⟩ := preFee_spec hb0 hb1 hp h
  obtain ⟨f0, f1, f2⟩ := fee_le hb0 hm hpre0 hf
  rcases hpre with e | e
  · omega
  · -- post ≤ pre·(1 − bps/10000) and f ≤ ⌈pre·bps/10000⌉
    rw [Int.mul_sub] at e; omega

/-- well-formed transfer-fee configuration: what the token program itself accepts (bps ≤ 10000) -/
def FeeCfgOk (c : FeeCfg) : Prop :=
  0 ≤ c.olderBps ∧ c.olderBps ≤ 10000 ∧ 0 ≤ c.olderMax ∧ 0 ≤ c.newerBps ∧ c.newerBps ≤ 10000 ∧ 0 ≤ c.newerMax

theorem mint_prefee_covers {m : Mint} {epoch post pre f : Int} (hp : 0 ≤ post)
    (hm : ∀ c, m = .t22fee c → FeeCfgOk c)
    (h : mintPre m epoch post = some pre) (hf : mintFee m epoch pre = some f) : post ≤ pre - f := by
  cases m with
  | spl => simp [mintPre] at h; simp [mintFee] at hf; omega
  | t22 => simp [mintPre] at h; simp [mintFee] at hf; omega
  | t22fee c =>
    obtain ⟨a1, a2, a3, a4, a5, a6⟩ := hm c rfl
    simp only [mintPre] at h
    simp only [mintFee] at hf
    unfold epochFee at h hf
    by_cases he : epoch ≥ c.newerEpoch
    · simp only [he, ↓reduceIte] at h hf
      exact prefee_covers a4 a5 a6 hp h hf
    · simp only [he, ↓reduceIte] at h hf
      exact prefee_covers a1 a2 a3 hp h hf

theorem epoch_fee_inclusive (c : FeeCfg) : epochFee c c.newerEpoch = (c.newerBps, c.newerMax) := by
  simp [epochFee]

example : mintPre (.t22fee { olderBps := 100, olderMax := 1000000, newerEpoch := 500, newerBps := 500, newerMax := 1000000 }) 500 1000 = some 1053 := by decide
example : mintPre (.t22fee { olderBps := 100, olderMax := 1000000, newerEpoch := 500, newerBps := 500, newerMax := 1000000 }) 499 1000 = some 1011 := by decide

def demoBank : Bank :=
  { asv := ONE + 12345, lsv := ONE + 999, sa := 1000 * ONE, sl := 10 * ONE, feeI := 0, feeG := 0, feeP := 0,
    depositLimit := 18446744073709551615, borrowLimit := 18446744073709551615, flags := 0, assetTag := 0,
    mintDecimals := 6, emissionsRate := 0, emissionsRemaining := 0, lendCnt := 1, borrowCnt := 1, lastUpdate := 0,
    cacheAccum := 0, cacheFor := 0 }
def demoUser : Holder := ⟨1000, { active := true, tag := 0, a := 0, l := 0, emis := 0, lastUpdate := 0 }⟩
example : Good demoBank demoUser := by unfold Good; decide
example : (applyOp demoBank demoUser 0 (.deposit 7)).isOk = true := by decide
example : (runOps demoBank demoUser [(0, .deposit 7), (0, .withdraw 3), (0, .withdraw 3)]).2.wallet = 999 := by decide

theorem standard_instructions_only_on_own_banks : Mfi.TagL.OwnBanks :=
  Mfi.TagL.standard_instructions_only_on_own_banks

end Mfi.FreeL
