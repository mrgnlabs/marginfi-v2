/-
  Solvency and no free value at the level of whole instructions: what a successful instruction of `Mfi/Model/World.lean` does to the
  books' claims (deposits − loans + uncollected fees, scale 2^96 per token) and to the net value of the position it operates on, in
  terms of the tokens it moves into or out of the liquidity vault: the step lemmas of SolvL and FreeL lifted through each handler.
-/
import Mfi.Lemmas.SolvL
import Mfi.Props.C05
import Mfi.Props.C17
import Mathlib.Tactic.Ring

namespace Mfi.World
open Mfi Mfi.Fx Mfi.Bank Mfi.Account Mfi.Gen Mfi.SolvL

/-- share values and fee buckets of a bank's books as every instruction finds and leaves them -/
structure SvFee (b : Bank) : Prop where
  asv : 0 ≤ b.asv
  lsv : 0 < b.lsv
  feeI : 0 ≤ b.feeI
  feeG : 0 ≤ b.feeG
  feeP : 0 ≤ b.feeP

def AllNN (l : List Slot) : Prop := ∀ s ∈ l, 0 ≤ s.a ∧ 0 ≤ s.l

/-- the static configuration the solvency argument relies on (none of the modelled instructions changes it) -/
structure CfgOk (v : BankV) (progFeeRate : Int) : Prop where
  fees : AccrualL.FeesOk v.ir
  base : BaseOk v.ir
  tf : 0 ≤ v.tfBps ∧ v.tfBps ≤ 10000 ∧ 0 ≤ v.tfMax
  orig : 0 ≤ v.origFee
  prog : 0 ≤ progFeeRate ∧ progFeeRate ≤ ONE

theorem AllNN_sort {l : List Slot} (h : AllNN l) : AllNN (sortBalances l) :=
  fun s hs => h s ((sort_perm l).mem_iff.mp hs)

theorem AllNN_set {l : List Slot} {i : Nat} {s : Slot} (h : AllNN l) (hs : 0 ≤ s.a ∧ 0 ≤ s.l) : AllNN (l.set i s) :=
  ListL.forall_mem_set h hs

theorem AllNN_get {l : List Slot} {i : Nat} {s : Slot} (h : AllNN l) (hs : l[i]? = some s) : 0 ≤ s.a ∧ 0 ≤ s.l :=
  h s (List.mem_of_getElem? hs)

theorem AllNN_findOrCreate {l l' : List Slot} {bank : Nat} {tag now : Int} {i : Nat}
    (h : findOrCreate l bank tag now = .ok (l', i)) (hl : AllNN l) : AllNN l' := by
  rcases findOrCreate_ok h with ⟨_, rfl⟩ | ⟨_, _, rfl⟩
  · exact hl
  · exact AllNN_set hl ⟨Int.le_refl _, Int.le_refl _⟩

theorem AllNN_write {c : Ctx} {l : List Slot} {i : Nat} {x : Balance} (h : AllNN l) (hx : 0 ≤ x.a ∧ 0 ≤ x.l) :
    AllNN (writeSlot c l i x) := AllNN_sort (AllNN_set h hx)

theorem accrue_solv {b b' : Bank} {ir : Interest.IrCalc} {now : Int} (h : accrueInterest b ir now = .ok b')
    (hb : SvFee b) (hsa : 0 ≤ b.sa) (hsl : 0 ≤ b.sl) (hf : AccrualL.FeesOk ir) (hbase : BaseOk ir) :
    claims b' ≤ claims b + accrueAllowance b ir now ∧ SvFee b' ∧ b.asv ≤ b'.asv ∧ b.lsv ≤ b'.lsv ∧ b'.sa = b.sa ∧ b'.sl = b.sl := by
  have hok : Mfi.Props.C06.BankOk b := ⟨hb.asv, le_of_lt hb.lsv, hsa, hsl⟩
  obtain ⟨m1, m2, e1, e2, f1, f2, f3, _⟩ := Mfi.Props.C06.accrue_spec h hok
  refine ⟨accrue_step h hok hf hbase, ⟨?_, ?_, ?_, ?_, ?_⟩, m1, m2, e1, e2⟩
  · have := hb.asv; omega
  · have := hb.lsv; omega
  · have := hb.feeI; omega
  · have := hb.feeG; omega
  · have := hb.feeP; omega

theorem SvFee.moved {b b' : Bank} {x x' : Balance} {da dl : Int} (hb : SvFee b) (m : Moved b x da dl b' x') : SvFee b' :=
  ⟨by rw [m.asv]; exact hb.asv, by rw [m.lsv]; exact hb.lsv, by rw [m.feeI]; exact hb.feeI, by rw [m.feeG]; exact hb.feeG,
   by rw [m.feeP]; exact hb.feeP⟩

theorem inc_solv {b b' : Bank} {x x' : Balance} {now d : Int} {t : IncType} (h : increaseBalance b x now d t = .ok (b', x'))
    (hsv : SvFee b) (hasv : 0 < b.asv) (hd : 0 ≤ d) (hx : 0 ≤ x.a ∧ 0 ≤ x.l) :
    claims b' ≤ claims b + d * ONE ∧ FreeL.netValue b' x' - FreeL.netValue b x ≤ d * ONE ∧
    SvFee b' ∧ b'.asv = b.asv ∧ b'.lsv = b.lsv ∧ 0 ≤ x'.a ∧ 0 ≤ x'.l :=
  have m := increase_moved h
  ⟨increase_step h hsv.asv (le_of_lt hsv.lsv) hd hx.2, FreeL.increase_no_gain h hd hasv hsv.lsv hx.2, hsv.moved m, m.asv, m.lsv,
    FreeL.inc_nonneg h hd hasv hsv.lsv hx.1 hx.2⟩

theorem dec_solv {b b' : Bank} {x x' : Balance} {now d : Int} {t : DecType} (h : decreaseBalance b x now d t = .ok (b', x'))
    (hsv : SvFee b) (hasv : 0 < b.asv) (hd : 0 ≤ d) (hx : 0 ≤ x.a ∧ 0 ≤ x.l) :
    claims b' < claims b - d * ONE + b.asv + b.lsv + 1 ∧ d * ONE - (b.asv + b.lsv) < FreeL.netValue b x - FreeL.netValue b' x' ∧
    SvFee b' ∧ b'.asv = b.asv ∧ b'.lsv = b.lsv ∧ 0 ≤ x'.a ∧ 0 ≤ x'.l :=
  have m := decrease_moved h
  ⟨decrease_step h hsv.asv (le_of_lt hsv.lsv) hd hx.1, FreeL.decrease_bounded_gain h hd hasv hsv.lsv hx.1, hsv.moved m, m.asv, m.lsv,
    FreeL.dec_nonneg h hd hasv hsv.lsv hx.1 hx.2⟩

/-- the fraction of a token that `withdraw_all` does not pay out goes to the insurance bucket -/
theorem withdrawAll_solv {b b' : Bank} {x x' : Balance} {now amt : Int} (h : withdrawAll b x now = .ok (b', x', amt))
    (hb : SvFee b) : b'.asv = b.asv ∧ b'.lsv = b.lsv ∧ SvFee b' := by
  obtain ⟨⟨_, _, rfl⟩, _, rfl, _⟩ := withdrawAll_closed h
  have := mulfloor_le (x.a * b.asv / ONE)
  exact ⟨rfl, rfl, hb.asv, hb.lsv, by have := hb.feeI; simp only; omega, hb.feeG, hb.feeP⟩

/-- the excess of the whole tokens `repay_all` charges goes to the insurance bucket; it charges less than one token above the debt -/
theorem repayAll_solv {b b' : Bank} {x x' : Balance} {now amt : Int} (h : repayAll b x now = .ok (b', x', amt)) (hb : SvFee b) :
    b'.asv = b.asv ∧ b'.lsv = b.lsv ∧ SvFee b' ∧ b'.flags = b.flags ∧ 0 ≤ amt ∧ amt * ONE * ONE < x.l * b.lsv + ONE * ONE := by
  obtain ⟨⟨_, _, rfl⟩, _, rfl, a0, _⟩ := repayAll_closed h
  have hONE := ONE_pos
  -- amt·2^48 = ⌈cur⌉ with cur = ⌊l·lsv / 2^48⌋
  obtain ⟨h1, h2⟩ := ceil_bounds (x.l * b.lsv / ONE)
  have h3 := mulfloor_le (x.l * b.lsv)
  refine ⟨rfl, rfl, ⟨hb.asv, hb.lsv, by have := hb.feeI; simp only; omega, hb.feeG, hb.feeP⟩, rfl, a0, ?_⟩
  have h4 := Int.mul_lt_mul_of_pos_right h2 hONE
  rw [Int.add_mul] at h4; omega

theorem collect_solv {b : Bank} {v : Int} {r : Collected} (h : collectFees b.feeI b.feeG b.feeP v = .ok r) (hsv : SvFee b) :
    claims { b with feeI := r.feeI, feeG := r.feeG, feeP := r.feeP } =
      claims b + -(r.toInsurance + r.toGroup + r.toProgram) * ONE * ONE ∧
    SvFee { b with feeI := r.feeI, feeG := r.feeG, feeP := r.feeP } := by
  obtain ⟨nI, _, nG, _, nP, _⟩ := Mfi.Props.C19.collect_buckets_nonneg h hsv.feeI hsv.feeG hsv.feeP
  exact ⟨collect_claims h, hsv.asv, hsv.lsv, nI, nG, nP⟩

/-- what the liquidity vault receives of `tokens` sent to it: the amount less the mint's transfer fee -/
def received (e : Ix.Env) (tokens : Int) : Int := tokens - (Token.fee e.tfBps e.tfMax tokens).getD 0

theorem received_zero (e : Ix.Env) : received e 0 = 0 := by
  unfold received Token.fee
  simp

/-- the token program's fee on a pre-fee amount computed by `calculate_pre_fee_amount` is always defined -/
theorem fee_defined {bps maxFee post pre : Int} (hb0 : 0 ≤ bps) (hb1 : bps ≤ 10000) (hp : 0 ≤ post)
    (h : Token.preFee bps maxFee post = some pre) : ∃ f, Token.fee bps maxFee pre = some f := by
  obtain ⟨_, p0, hu⟩ := Mfi.FreeL.preFee_spec hb0 hb1 hp h
  unfold Token.fee
  by_cases h0 : bps = 0 ∨ pre = 0
  · exact ⟨0, if_pos h0⟩
  · rw [if_neg h0]
    -- pre is a u64 and bps ≤ 10000: the raw fee ⌈pre·bps/10000⌉ is at most pre
    have hpb : 0 ≤ pre * bps := Int.mul_nonneg p0 hb0
    have hle : pre * bps ≤ pre * 10000 := Int.mul_le_mul_of_nonneg_left hb1 p0
    have hraw : 0 ≤ (pre * bps + 10000 - 1) / 10000 ∧ (pre * bps + 10000 - 1) / 10000 ≤ U64MAX := by omega
    unfold Token.chkU64
    rw [if_pos hraw]; exact ⟨_, rfl⟩

theorem preFeeAmt_spec {e : Ix.Env} {post pre : Int} (htf : 0 ≤ e.tfBps ∧ e.tfBps ≤ 10000 ∧ 0 ≤ e.tfMax) (hp : 0 ≤ post)
    (h : Ix.preFeeAmt e post = .ok pre) : 0 ≤ pre ∧ post * ONE * ONE ≤ received e pre * ONE * ONE := by
  unfold Ix.preFeeAmt at h
  revert h
  cases hx : Token.preFee e.tfBps e.tfMax post with
  | none => intro h; cases h
  | some x =>
    intro h; cases h
    obtain ⟨f, hf⟩ := fee_defined htf.1 htf.2.1 hp hx
    have hcov : post ≤ pre - f := Mfi.FreeL.prefee_covers htf.1 htf.2.1 htf.2.2 hp hx hf
    unfold received
    rw [hf]
    exact ⟨(Mfi.FreeL.preFee_spec htf.1 htf.2.1 hp hx).2.1,
      Int.mul_le_mul_of_nonneg_right (Int.mul_le_mul_of_nonneg_right hcov (le_of_lt ONE_pos)) (le_of_lt ONE_pos)⟩

/-! ### the five user instructions

For deposit, borrow, withdraw and repay ONE theorem says what the instruction books on both sides: the bank's claims against
the tokens that moved (`Solv`), and the net value of the position operated on against the same tokens, with the accrued bank
and the slot named. The two bounds are one inequality: a balance move adds the same number to both (`Moved.claims`, `Moved.net`). -/

theorem capacity_nonneg {b : Bank} {c : Int} (h : remainingDepositCapacity b = .ok c) : 0 ≤ c := by
  rcases remainingDepositCapacity_ok h with ⟨_, rfl⟩ | ⟨_, _, _, _, _, ⟨_, rfl⟩ | ⟨_, _, h0, _⟩⟩
  · decide
  · exact Int.le_refl 0
  · exact h0

/-- a bank that passed `validate_bank_state` is not the killed one -/
theorem stateOf_live {opState : Int} {k : Gate.Kind} (h : stateOf opState k = .ok ()) : opState ≠ 3 := by
  rintro rfl
  obtain ⟨s, hs, hv⟩ := stateOf_ok h
  cases hs  -- `s` is `.killedByBankruptcy`,
  cases hv  -- which `validateBankState` refuses before it looks at the kind

/-- what the solvency argument gets out of a successful instruction on one bank: the claims bound in terms of the tokens
    that entered the liquidity vault (`inflow`, negative = paid out) and an allowance, and the facts the next instruction
    needs again -/
structure Solv (c : Ctx) (o : Out) (inflow allow : Int) : Prop where
  claims : claims o.books ≤ claims c.b.books + inflow * ONE * ONE + allow
  sv : SvFee o.books
  asvMono : c.b.books.asv ≤ o.books.asv
  lsvMono : c.b.books.lsv ≤ o.books.lsv
  slots : AllNN o.slots

/-- hypotheses shared by all instructions on one (account, bank) pair -/
structure Pre (c : Ctx) : Prop where
  sv : SvFee c.b.books
  sa : 0 ≤ c.b.books.sa
  sl : 0 ≤ c.b.books.sl
  cfg : CfgOk c.b c.g.progFeeRate
  slots : AllNN c.a.slots
  live : c.b.opState ≠ 3 → 0 < c.b.books.asv

theorem Pre.accrued {c : Ctx} (hp : Pre c) {b : Bank} (h : accrueInterest c.b.books c.b.ir c.now = .ok b) :
    claims b ≤ claims c.b.books + accrueAllowance c.b.books c.b.ir c.now ∧ SvFee b ∧ c.b.books.asv ≤ b.asv ∧
    c.b.books.lsv ≤ b.lsv ∧ (c.b.opState ≠ 3 → 0 < b.asv) := by
  obtain ⟨hcl, hsv, m1, m2, _⟩ := accrue_solv h hp.sv hp.sa hp.sl hp.cfg.fees hp.cfg.base
  exact ⟨hcl, hsv, m1, m2, fun hl => Int.lt_of_lt_of_le (hp.live hl) m1⟩

theorem deposit_booked {c : Ctx} {amount : Int} {upTo : Bool} {o : Out} (h : deposit c amount upTo = .ok o)
    (hp : Pre c) (ha : 0 ≤ amount) :
    Solv c o (received c.ixEnv o.tokens) (accrueAllowance c.b.books c.b.ir c.now) ∧
    ∃ (b : Bank), accrueInterest c.b.books c.b.ir c.now = .ok b ∧
      ((o.tokens = 0 ∧ o.slots = c.a.slots) ∨
       ∃ (slots : List Slot) (i : Nat) (s : Slot) (x' : Balance), findOrCreate c.a.slots c.b.key b.assetTag c.now = .ok (slots, i) ∧
          slots[i]? = some s ∧ o.slots = writeSlot c slots i x' ∧
          FreeL.netValue o.books x' - FreeL.netValue b (toBal s) ≤ received c.ixEnv o.tokens * ONE * ONE) := by
  have hok := deposit_ok h
  obtain ⟨b, amt, hb1, hamt, hcore⟩ := hok.core
  obtain ⟨hcl, hsv, m1, m2, hlive⟩ := hp.accrued hb1
  replace hlive := hlive (stateOf_live hok.state)
  have hamt0 : 0 ≤ amt := by
    obtain ⟨h1, h2⟩ := Mfi.Props.C17.deposit_up_to_limit_amount hamt
    cases upTo with
    | true =>
      obtain ⟨cap, hcap, e, _, _⟩ := h1 rfl
      have := capacity_nonneg hcap
      omega
    | false => rw [h2 rfl]; exact ha
  by_cases h0 : amt = 0
  · rw [if_pos h0] at hcore
    obtain ⟨hs, hbk, ht⟩ := hcore
    refine ⟨⟨?_, by rw [hbk]; exact hsv, by rw [hbk]; exact m1, by rw [hbk]; exact m2, by rw [hs]; exact hp.slots⟩,
      b, hb1, Or.inl ⟨ht, hs⟩⟩
    rw [hbk, ht, received_zero]; linarith only [hcl]
  · rw [if_neg h0] at hcore
    obtain ⟨slots, i, s, x', hfc, hs, hd, hsl⟩ := hcore
    obtain ⟨x2, hr, rfl, hpre⟩ := depositCore_spec hd
    have nn := AllNN_findOrCreate hfc hp.slots
    obtain ⟨hst, hgain, hsv', ea, el, hx'⟩ := inc_solv (x := toBal s) (d := amt * ONE) hr hsv hlive (Int.mul_nonneg hamt0 (le_of_lt ONE_pos)) (AllNN_get nn hs)
    have hcov := (preFeeAmt_spec hp.cfg.tf hamt0 hpre).2
    exact ⟨⟨by linarith only [hst, hcov, hcl], hsv', by rw [ea]; exact m1, by rw [el]; exact m2, by rw [hsl]; exact AllNN_write nn hx'⟩,
      b, hb1, Or.inr ⟨slots, i, s, x2, hfc, hs, hsl, by linarith only [hgain, hcov]⟩⟩

theorem borrow_booked {c : Ctx} {amount : Int} {o : Out} (h : borrow c amount = .ok o) (hp : Pre c) (ha : 0 ≤ amount) :
    Solv c o (-o.tokens) (accrueAllowance c.b.books c.b.ir c.now + (o.books.asv + o.books.lsv + 1)) ∧
    ∃ (b : Bank) (slots : List Slot) (i : Nat) (s : Slot) (x' : Balance), accrueInterest c.b.books c.b.ir c.now = .ok b ∧
      findOrCreate c.a.slots c.b.key b.assetTag c.now = .ok (slots, i) ∧ slots[i]? = some s ∧ o.slots = writeSlot c slots i x' ∧
      o.tokens * ONE * ONE - (b.asv + b.lsv) < FreeL.netValue b (toBal s) - FreeL.netValue o.books x' := by
  have hONE := ONE_pos
  obtain ⟨b, slots, i, s, x', hb1, _, hstate, hfc, hs, hcore, hsl⟩ := (borrow_ok h).core
  obtain ⟨hcl, hsv, m1, m2, hlive⟩ := hp.accrued hb1
  have nn := AllNN_findOrCreate hfc hp.slots
  obtain ⟨fee, b2, g, p, hpre, efee, hd, hb', hfees⟩ := borrowCore_spec hcore
  have hoft : 0 ≤ Fx.ofInt o.tokens := Int.mul_nonneg (preFeeAmt_spec hp.cfg.tf ha hpre).1 (le_of_lt hONE)
  have hfee0 : 0 ≤ fee := by rw [efee]; exact Int.ediv_nonneg (Int.mul_nonneg hoft hp.cfg.orig) (le_of_lt hONE)
  obtain ⟨hst, hgain, hsv2, ea, el, hx'⟩ := dec_solv (d := o.tokens * ONE + fee) hd hsv (hlive (stateOf_live hstate))
    (Int.add_nonneg hoft hfee0) (AllNN_get nn hs)
  rw [Int.add_mul] at hst hgain
  obtain ⟨g0, p0, hgp⟩ := hfees hfee0 hp.cfg.prog.1 hp.cfg.prog.2 hsv2.feeG hsv2.feeP
  have hf1 := Int.mul_nonneg hfee0 (le_of_lt hONE)
  have easv : o.books.asv = b.asv := by rw [hb']; exact ea
  have elsv : o.books.lsv = b.lsv := by rw [hb']; exact el
  -- the fee moves into the buckets, which are no part of a position's value
  have hcb : claims o.books ≤ claims b2 + fee * ONE := by
    rw [hb']; unfold claims
    have := Int.mul_le_mul_of_nonneg_right (show b2.feeI + g + p ≤ b2.feeI + b2.feeG + b2.feeP + fee by linarith only [hgp])
      (le_of_lt hONE)
    simp only; linarith only [this]
  have hnv : FreeL.netValue o.books x' = FreeL.netValue b2 x' := by rw [hb']; rfl
  exact ⟨⟨by rw [easv, elsv]; linarith only [hcb, hst, hcl], by rw [hb']; exact ⟨hsv2.asv, hsv2.lsv, hsv2.feeI, g0, p0⟩,
      by rw [easv]; exact m1, by rw [elsv]; exact m2, by rw [hsl]; exact AllNN_write nn hx'⟩,
    b, slots, i, s, x', hb1, hfc, hs, hsl, by rw [hnv]; linarith only [hgain, hf1]⟩

theorem withdraw_booked {c : Ctx} {amount : Int} {all : Bool} {o : Out} (h : withdraw c amount all = .ok o) (hp : Pre c)
    (ha : 0 ≤ amount) :
    Solv c o (-o.tokens) (accrueAllowance c.b.books c.b.ir c.now + (o.books.asv + o.books.lsv + 1)) ∧
    ∃ (b : Bank) (i : Nat) (s : Slot) (x' : Balance), accrueInterest c.b.books c.b.ir c.now = .ok b ∧ findSlot c = .ok (i, s) ∧
      o.slots = writeSlot c c.a.slots i x' ∧
      (if all then o.tokens * ONE * ONE ≤ s.a * b.asv ∧ x'.a = 0 ∧ x'.l = 0
       else o.tokens * ONE * ONE - (b.asv + b.lsv) < FreeL.netValue b (toBal s) - FreeL.netValue o.books x') := by
  have hONE := ONE_pos
  have hok := withdraw_ok h
  obtain ⟨price, b, i, s, x', pre, _, hb1, hfs, hcore, htok, _, hsl⟩ := hok.core
  obtain ⟨hcl, hsv, m1, m2, hlive⟩ := hp.accrued hb1
  replace hlive := hlive (stateOf_live hok.state)
  have hnn := AllNN_get hp.slots (findSlot_ok hfs).1
  -- a completed deleverage pays what the vault holds, if that is less
  have hle : o.tokens * ONE * ONE ≤ pre * ONE * ONE := by
    refine Int.mul_le_mul_of_nonneg_right (Int.mul_le_mul_of_nonneg_right ?_ (le_of_lt hONE)) (le_of_lt hONE)
    rw [htok]; unfold withdrawPays; split
    · exact Int.min_le_left _ _
    · exact Int.le_refl _
  rcases withdrawCore_spec hcore with ⟨rfl, hw⟩ | ⟨rfl, hpre, hd⟩
  · have hst := withdraw_all_step hw hsv.asv hnn.1
    obtain ⟨f1, f2, hsv'⟩ := withdrawAll_solv hw hsv
    obtain ⟨r1, z1, z2, _⟩ := FreeL.withdraw_all_rounds_down hw hsv.asv hnn.1
    refine ⟨⟨?_, hsv', by rw [f1]; exact m1, by rw [f2]; exact m2, ?_⟩, b, i, s, x', hb1, hfs, hsl, Int.le_trans hle r1, z1, z2⟩
    · linarith only [hst, hcl, hle, hsv'.asv, hsv'.lsv]
    · rw [hsl]; exact AllNN_write hp.slots ⟨Int.le_of_eq z1.symm, Int.le_of_eq z2.symm⟩
  · obtain ⟨hst, hgain, hsv', ea, el, hx'⟩ := dec_solv (d := pre * ONE) hd hsv hlive
      (Int.mul_nonneg (preFeeAmt_spec hp.cfg.tf ha hpre).1 (le_of_lt hONE)) hnn
    exact ⟨⟨by rw [ea, el]; linarith only [hst, hcl, hle], hsv', by rw [ea]; exact m1, by rw [el]; exact m2,
        by rw [hsl]; exact AllNN_write hp.slots hx'⟩,
      b, i, s, x', hb1, hfs, hsl, by rw [if_neg Bool.false_ne_true]; linarith only [hgain, hle]⟩

/-- the risk admin's token-less full repayment on a bank flagged for it (the sanctioned write-off of a sunset bank) -/
def tokenless (c : Ctx) (all : Bool) : Bool :=
  c.signer == c.g.riskAdmin && hasFlag c.b.books.flags TOKENLESS_REPAYMENTS_ALLOWED && all

theorem repay_booked {c : Ctx} {amount : Int} {all : Bool} {o : Out} (h : repay c amount all = .ok o) (hp : Pre c) (ha : 0 ≤ amount) :
    Solv c o (received c.ixEnv o.tokens)
      (accrueAllowance c.b.books c.b.ir c.now + (if all then ONE else 0) +
        (if tokenless c all then (slotOf c.a c.b.key).l * o.books.lsv + ONE * ONE else 0)) ∧
    ∃ (b : Bank) (i : Nat) (s : Slot) (x' : Balance), accrueInterest c.b.books c.b.ir c.now = .ok b ∧ findSlot c = .ok (i, s) ∧
      o.slots = writeSlot c c.a.slots i x' ∧
      (if all then x'.a = 0 ∧ x'.l = 0 ∧ (tokenless c true = false → s.l * b.lsv - ONE < received c.ixEnv o.tokens * ONE * ONE)
       else FreeL.netValue o.books x' - FreeL.netValue b (toBal s) ≤ received c.ixEnv o.tokens * ONE * ONE) := by
  have hok := repay_ok h
  obtain ⟨b, i, s, b', x', post, hb1, hfs, hcore, htok, hbooks, hsl⟩ := hok.core
  obtain ⟨hcl, hsv, m1, m2, hlive⟩ := hp.accrued hb1
  replace hlive := hlive (stateOf_live hok.state)
  have hnn := AllNN_get hp.slots (findSlot_ok hfs).1
  have hcb : claims o.books = claims b' := by rw [hbooks]; rfl
  have hsvo : SvFee b' → SvFee o.books := fun k => by rw [hbooks]; exact ⟨k.asv, k.lsv, k.feeI, k.feeG, k.feeP⟩
  have easv : o.books.asv = b'.asv := by rw [hbooks]
  have elsv : o.books.lsv = b'.lsv := by rw [hbooks]
  rw [slotOf_found hfs, elsv]
  unfold repayTokens at htok
  rcases repayCore_spec hcore with ⟨rfl, hr⟩ | ⟨rfl, e, hd⟩
  · have hst := repay_all_step hr
    obtain ⟨f1, f2, hsv', f6, p0, pbound⟩ := repayAll_solv hr hsv
    obtain ⟨r1, z1, z2, _⟩ := FreeL.repay_all_rounds_up hr
    replace pbound : post * ONE * ONE < s.l * b.lsv + ONE * ONE := pbound
    replace r1 : s.l * b.lsv - ONE < post * ONE * ONE := r1
    have hflags : b'.flags = c.b.books.flags := by rw [f6, (accrue_frame hb1).2]
    -- no tokens are asked exactly when the repayment is the token-less one
    rw [hflags] at htok
    change (if tokenless c true = true then _ else _) = _ at htok
    refine ⟨⟨?_, hsvo hsv', by rw [easv, f1]; exact m1, by rw [elsv, f2]; exact m2, ?_⟩, b, i, s, x', hb1, hfs, hsl, z1, z2, ?_⟩
    · rw [hcb, f2, if_pos rfl]
      by_cases htl : tokenless c true = true
      · rw [if_pos htl] at htok
        injection htok with htok
        rw [← htok, received_zero, if_pos htl]
        linarith only [hst, hcl, pbound]
      · rw [if_neg htl] at htok
        have hcov := (preFeeAmt_spec hp.cfg.tf p0 htok).2
        rw [if_neg htl]
        linarith only [hst, hcl, hcov]
    · rw [hsl]; exact AllNN_write hp.slots ⟨Int.le_of_eq z1.symm, Int.le_of_eq z2.symm⟩
    · intro hnt
      rw [if_neg (by rw [hnt]; exact Bool.false_ne_true)] at htok
      exact Int.lt_of_lt_of_le r1 (preFeeAmt_spec hp.cfg.tf p0 htok).2
  · subst post
    obtain ⟨hst, hgain, hsv', ea, el, hx'⟩ := inc_solv (d := amount * ONE) hd hsv hlive (Int.mul_nonneg ha (le_of_lt ONE_pos)) hnn
    rw [if_neg (by simp)] at htok
    have hcov := (preFeeAmt_spec hp.cfg.tf ha htok).2
    have hnv : FreeL.netValue o.books x' = FreeL.netValue b' x' := by rw [hbooks]; rfl
    refine ⟨⟨?_, hsvo hsv', by rw [easv, ea]; exact m1, by rw [elsv, el]; exact m2, by rw [hsl]; exact AllNN_write hp.slots hx'⟩,
      b, i, s, x', hb1, hfs, hsl, by rw [if_neg Bool.false_ne_true, hnv]; linarith only [hgain, hcov]⟩
    rw [hcb, show tokenless c false = false by simp [tokenless], if_neg Bool.false_ne_true, if_neg Bool.false_ne_true]
    linarith only [hst, hcl, hcov]

theorem close_solv {c : Ctx} {o : Out} (h : closeBalance c = .ok o) (hp : Pre c) :
    Solv c o 0 (accrueAllowance c.b.books c.b.ir c.now) := by
  obtain ⟨b, i, s, x', hb1, hfs, hcore, hsl⟩ := (close_ok h).core
  obtain ⟨hcl, hsv, m1, m2, _⟩ := hp.accrued hb1
  obtain ⟨⟨r, hb⟩, hx, _⟩ := closeBalanceOp_closed hcore
  have hcb := close_step hcore
  refine ⟨by rw [hcb]; omega, by rw [hb]; exact ⟨hsv.asv, hsv.lsv, hsv.feeI, hsv.feeG, hsv.feeP⟩, by rw [hb]; exact m1,
    by rw [hb]; exact m2, ?_⟩
  rw [hsl, hx]
  exact AllNN_write hp.slots ⟨Int.le_refl _, Int.le_refl _⟩

/-- a settlement on the accrued books: the claims rise by no more than what the insurance pays in, rounded up to whole tokens —
    unless the loss wipes out the deposits and kills the bank, when they may rise by up to the whole bad debt -/
theorem settle_solv {b : Bank} {x : Balance} {avail now : Int} {st : BankruptcyOut} (h : settleBankruptcy b x avail now = .ok st)
    (hav : 0 ≤ avail) (hsv : SvFee b) (hsa : 0 ≤ b.sa) (hx : 0 ≤ x.a ∧ 0 ≤ x.l) :
    claims st.bank ≤ claims b + st.coveredUp * ONE * ONE + (if st.kill then x.l * b.lsv else 0) ∧
    SvFee st.bank ∧ st.bank.lsv = b.lsv ∧ (st.kill = false → 0 < st.bank.asv) ∧ 0 ≤ st.coveredUp ∧ 0 ≤ st.bal.a ∧ 0 ≤ st.bal.l := by
  have hONE := ONE_pos
  obtain ⟨hbad, hbadpos, hcov, _, hsoc0, _, hup, _, _, b1, hsoc, hinc⟩ := Mfi.Props.C07.settle_spec h hav
  obtain ⟨eb1, hcase⟩ := Mfi.Props.C07.socialize_spec hsoc hsoc0 hsa hsv.asv
  have m := increase_moved hinc
  have hbadn : 0 ≤ st.badDebt := Int.le_trans (by decide) (le_of_lt hbadpos)
  have hup0 : 0 ≤ st.coveredUp := by
    have : 0 ≤ st.covered := by rw [hcov]; exact Int.le_min.mpr ⟨hbadn, Int.mul_nonneg hav (le_of_lt hONE)⟩
    exact Int.nonneg_of_mul_nonneg_left (Int.le_trans this hup) hONE
  -- the loss socialisation touches the deposit share value only, and does not raise it
  have hasv1 : 0 ≤ b1.asv ∧ b1.asv ≤ b.asv := by
    rcases hcase with ⟨_, h0, _⟩ | ⟨_, _, h0, h1, _⟩
    · rw [h0]; exact ⟨Int.le_refl _, hsv.asv⟩
    · exact ⟨h0, h1⟩
  have hsv1 : SvFee b1 := by rw [eb1]; exact ⟨hasv1.1, hsv.lsv, hsv.feeI, hsv.feeG, hsv.feeP⟩
  have elsv : b1.lsv = b.lsv := by rw [eb1]
  refine ⟨?_, hsv1.moved m, by rw [m.lsv, elsv], fun hk => ?_, hup0, FreeL.inc_nonneg0 hinc hbadn hsv1.asv hsv1.lsv hx.1 hx.2⟩
  · cases hk : st.kill with
    | false =>
      rw [if_neg Bool.false_ne_true, Int.add_zero]
      exact bankruptcy_step h hav hsa hsv.asv (le_of_lt hsv.lsv) hx.2 hk
    | true =>
      rw [if_pos rfl]
      -- the whole bad debt `⌊l·lsv⌋` is repaid on the position
      have hstep := increase_step hinc hsv1.asv (le_of_lt hsv1.lsv) hbadn hx.2
      have hc1 : claims b1 ≤ claims b := by
        rw [eb1]; unfold claims
        have := Int.mul_le_mul_of_nonneg_left hasv1.2 hsa
        simp only; omega
      have hbl : st.badDebt * ONE ≤ x.l * b.lsv := by
        rw [(mul?_some (math_ok hbad)).1]; exact mulfloor_le _
      have := Int.mul_nonneg (Int.mul_nonneg hup0 (le_of_lt hONE)) (le_of_lt hONE)
      omega
  · rw [m.asv]
    rcases hcase with ⟨_, _, hkill⟩ | ⟨_, _, h0, _, hkill, _⟩
    · rw [hk] at hkill; cases hkill
    · rw [hk] at hkill
      have : b1.asv ≠ 0 := fun h00 => by rw [h00] at hkill; cases hkill
      omega

/-- the books step of a bankruptcy settlement: the insurance tokens enter the liquidity vault; when the settlement kills the
    bank (deposits wiped out: the sanctioned exception) the claims may rise by up to the whole bad debt, otherwise by no more
    than what the insurance pays in -/
structure SolvB (c : Ctx) (o : BkrOut) : Prop where
  claims : claims o.books ≤ claims c.b.books + o.insuranceTokens * ONE * ONE + accrueAllowance c.b.books c.b.ir c.now +
      (if o.opState = 3 then (slotOf c.a c.b.key).l * o.books.lsv else 0)
  sv : SvFee o.books
  lsvMono : c.b.books.lsv ≤ o.books.lsv
  slots : AllNN o.slots
  live : o.opState ≠ 3 → 0 < o.books.asv
  ins : 0 ≤ o.insuranceTokens

theorem bankruptcy_solv {c : Ctx} {available : Int} {o : BkrOut} (h : bankruptcy c available = .ok o) (hp : Pre c) (hav : 0 ≤ available) :
    SolvB c o := by
  have k := bankruptcy_ok h
  obtain ⟨b, i, s, st, hb1, hi, hs, _, _, hst, rfl⟩ := k.core
  obtain ⟨hcl, hsv, _, m2, _⟩ := hp.accrued hb1
  obtain ⟨hc, hsv', elsv, hlive, hins, hx'⟩ := settle_solv hst hav hsv (by rw [(accrue_totals hb1).1]; exact hp.sa)
    (AllNN_get hp.slots hs)
  replace hc : claims st.bank ≤ claims b + st.coveredUp * ONE * ONE + (if st.kill then s.l * b.lsv else 0) := hc
  have hslot : slotOf c.a c.b.key = s := by simp only [slotOf, hi, hs, Option.getD_some]
  refine ⟨?_, hsv', by rw [← elsv] at m2; exact m2, AllNN_set hp.slots hx', fun h3 => ?_, hins⟩
  · rw [hslot]
    show claims st.bank ≤ claims c.b.books + st.coveredUp * ONE * ONE + accrueAllowance c.b.books c.b.ir c.now +
      (if (if st.kill then 3 else c.b.opState) = 3 then s.l * st.bank.lsv else 0)
    rw [elsv]
    cases hk : st.kill with
    | false => rw [hk, if_neg Bool.false_ne_true] at hc; rw [if_neg Bool.false_ne_true, if_neg (stateOf_live k.state)]; omega
    | true => rw [hk, if_pos rfl] at hc; rw [if_pos rfl, if_pos rfl]; omega
  · cases hk : st.kill with
    | false => exact hlive hk
    | true => exact absurd (by show (if st.kill then 3 else c.b.opState) = 3; rw [hk]; rfl) h3

theorem liqAmountsLate_spec {n ap lp dA dL lq fin fee w : Int} (hn : 0 < n) (hap : 0 < ap) (hlp : 0 < lp)
    (h : liqAmountsLate n ap lp dA dL = .ok (lq, fin, fee)) (hw : Fx.toU64? fee = some w) :
    0 ≤ lq ∧ 0 ≤ fin ∧ lq - fin = w * ONE + Fx.frac fee ∧ 0 ≤ Fx.frac fee ∧ 0 ≤ w := by
  have hla := Mfi.Props.C05.world_liquidation_amounts_are_the_amounts h hw
  -- both scale factors exist (the computation went through them)
  obtain ⟨v1, _, hv1, hl1, _⟩ := Risk.liquidationAmounts_ok hla
  obtain ⟨sa, _, _, hsa, _⟩ := Risk.calcValue_ok hv1 (ne_of_gt (Int.mul_pos hn ONE_pos))
  obtain ⟨sl, _, hsl, _⟩ := Risk.calcAmount_ok hl1
  obtain ⟨_, efee, hfee0, hfin0, ew, efr, esum, hfr0, _⟩ := Mfi.Props.C05.amounts_spec hsa hsl (le_of_lt hn) (le_of_lt hap) hlp hla
  simp only at efee hfee0 hfin0 esum hfr0
  exact ⟨by omega, hfin0, by omega, hfr0, (toU64?_some hw).2.1⟩

/-- hypotheses of a liquidation: both banks, both accounts -/
structure Pre2 (c : LiqCtx) : Prop where
  svA : SvFee c.ab.books
  saA : 0 ≤ c.ab.books.sa
  slA : 0 ≤ c.ab.books.sl
  cfgA : CfgOk c.ab c.g.progFeeRate
  liveA : c.ab.opState ≠ 3 → 0 < c.ab.books.asv
  svL : SvFee c.lb.books
  saL : 0 ≤ c.lb.books.sa
  slL : 0 ≤ c.lb.books.sl
  cfgL : CfgOk c.lb c.g.progFeeRate
  liveL : c.lb.opState ≠ 3 → 0 < c.lb.books.asv
  slotsQ : AllNN c.lq.slots
  slotsE : AllNN c.le.slots

/-- the books step of a liquidation: the collateral bank's vault does not move and its claims rise by less than one unit of
    each share value (plus the accrual allowance); the debt bank pays the whole-token part of the insurance fee out of its
    vault and its claims fall by that much, short of it by less than one unit of each share value -/
structure Solv2 (c : LiqCtx) (o : LiqOutW) : Prop where
  claimsA : claims o.assetBooks ≤ claims c.ab.books + accrueAllowance c.ab.books c.ab.ir c.now + (o.assetBooks.asv + o.assetBooks.lsv + 1)
  claimsL : claims o.liabBooks ≤ claims c.lb.books - o.insuranceTokens * ONE * ONE + accrueAllowance c.lb.books c.lb.ir c.now +
      (o.liabBooks.asv + o.liabBooks.lsv + 1)
  svA : SvFee o.assetBooks
  svL : SvFee o.liabBooks
  monoA : c.ab.books.asv ≤ o.assetBooks.asv ∧ c.ab.books.lsv ≤ o.assetBooks.lsv
  monoL : c.lb.books.asv ≤ o.liabBooks.asv ∧ c.lb.books.lsv ≤ o.liabBooks.lsv
  slotsQ : AllNN o.lqSlots
  slotsE : AllNN o.leSlots
  ins : 0 ≤ o.insuranceTokens

theorem liquidate_solv {c : LiqCtx} {amount : Int} {o : LiqOutW} (h : liquidate c amount = .ok o) (hp : Pre2 c) : Solv2 c o := by
  have hONE := ONE_pos
  obtain ⟨t, k⟩ := liquidate_ok h
  obtain ⟨q1, q2, q3, q4, q5⟩ := liqAmountsLate_spec k.positive k.priceA.2 k.priceL.2 k.amounts k.fee
  obtain ⟨hclA, hsvA, mA1, mA2, _⟩ := accrue_solv k.accA hp.svA hp.saA hp.slA hp.cfgA.fees hp.cfgA.base
  obtain ⟨hclL, hsvL, mL1, mL2, _⟩ := accrue_solv k.accL hp.svL hp.saL hp.slL hp.cfgL.fees hp.cfgL.base
  have hasvA : 0 < t.a.asv := Int.lt_of_lt_of_le (hp.liveA (stateOf_live k.stateA)) mA1
  have hasvL : 0 < t.l.asv := Int.lt_of_lt_of_le (hp.liveL (stateOf_live k.stateL)) mL1
  have hofa : 0 ≤ Fx.ofInt amount := Int.mul_nonneg (le_of_lt k.positive) (le_of_lt hONE)
  -- debt bank: moves 1 and 4; collateral bank: moves 2 and 3; moves 1 and 2 leave non-negative shares for moves 3 and 4 to find
  have nnQ1 := AllNN_findOrCreate k.slot1 hp.slotsQ
  have nnE := AllNN_sort hp.slotsE
  obtain ⟨st1, _, sv1, a1, l1, x1⟩ := dec_solv k.move1 hsvL hasvL q1 (AllNN_get nnQ1 k.get1.1)
  obtain ⟨st2, _, sv2, a2, l2, x2⟩ := dec_solv k.move2 hsvA hasvA hofa (AllNN_get nnE k.get2.1)
  have nnQ3 := AllNN_findOrCreate k.slot3 (AllNN_set nnQ1 x1)
  have nnE2 : AllNN ((sortBalances c.le.slots).set t.i2 (ofBal c.ab.key t.x2)) := AllNN_set nnE x2
  obtain ⟨st3, _, svA, a3, l3, x3⟩ := inc_solv k.move3 sv2 (by rw [a2]; exact hasvA) hofa (AllNN_get nnQ3 k.get3.1)
  obtain ⟨st4, _, svL, a4, l4, x4⟩ := inc_solv k.move4 sv1 (by rw [a1]; exact hasvL) q2 (AllNN_get nnE2 k.get4.1)
  have eA : o.assetBooks.asv = t.a.asv ∧ o.assetBooks.lsv = t.a.lsv := by rw [k.assetBooks]; exact ⟨a3.trans a2, l3.trans l2⟩
  have eL : o.liabBooks.asv = t.l.asv ∧ o.liabBooks.lsv = t.l.lsv := by rw [k.liabBooks]; exact ⟨a4.trans a1, l4.trans l1⟩
  refine ⟨?_, ?_, by rw [k.assetBooks]; exact svA, ?_, by rw [eA.1, eA.2]; exact ⟨mA1, mA2⟩,
    by rw [eL.1, eL.2]; exact ⟨mL1, mL2⟩, by rw [k.lqSlots]; exact AllNN_sort (AllNN_set nnQ3 x3),
    by rw [k.leSlots]; exact AllNN_set nnE2 x4, q5⟩
  · rw [eA.1, eA.2, k.assetBooks]; linarith only [st2, st3, hclA]
  · -- the fee `aLq − aFin` leaves the claims: its whole tokens go to the insurance vault, its fraction to the fee bucket
    have hcl : claims o.liabBooks = claims t.l4 + Fx.frac t.aFee * ONE := by
      rw [k.liabBooks]; unfold claims; simp only; ring
    have e := congrArg (· * ONE) q3
    simp only [Int.sub_mul, Int.add_mul] at e
    rw [eL.1, eL.2, hcl]; linarith only [st1, st4, hclL, e]
  · rw [k.liabBooks]
    exact ⟨svL.asv, svL.lsv, Int.add_nonneg svL.feeI q4, svL.feeG, svL.feeP⟩

end Mfi.World
