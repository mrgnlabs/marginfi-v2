/- `List` facts the model-specific lemmas are instances of: `List.set` at a place known to hold something (reading, mapping,
   summing), a sum over a filter, what a fold keeps. -/
namespace Mfi.ListL

theorem getElem?_set_of_some {α : Type} {l : List α} {i : Nat} {a : α} (h : l[i]? = some a) (a' : α) (j : Nat) :
    (l.set i a')[j]? = if i = j then some a' else l[j]? := by
  rw [List.getElem?_set, if_pos (List.getElem?_eq_some_iff.mp h).1]

theorem getElem?_set_cases {α : Type} {l : List α} {i j : Nat} {a a' x : α} (h : l[i]? = some a) (hx : (l.set i a')[j]? = some x) :
    (i = j ∧ x = a') ∨ (i ≠ j ∧ l[j]? = some x) := by
  rw [getElem?_set_of_some h] at hx
  by_cases hj : i = j
  · rw [if_pos hj] at hx; cases hx; exact .inl ⟨hj, rfl⟩
  · rw [if_neg hj] at hx; exact .inr ⟨hj, hx⟩

theorem forall_mem_set {α : Type} {P : α → Prop} {l : List α} {i : Nat} {a' : α} (h : ∀ x ∈ l, P x) (ha : P a') :
    ∀ x ∈ l.set i a', P x := by
  intro x hx
  rcases List.mem_or_eq_of_mem_set hx with hx | hx
  · exact h x hx
  · rw [hx]; exact ha

theorem forall_getElem?_set {α : Type} {P : α → Prop} {l : List α} {i : Nat} {a' : α}
    (h : ∀ (j : Nat) x, l[j]? = some x → P x) (ha : P a') : ∀ (j : Nat) x, (l.set i a')[j]? = some x → P x := fun _ x hx =>
  forall_mem_set (fun y hy => (List.getElem?_of_mem hy).elim fun k hk => h k y hk) ha x (List.mem_of_getElem? hx)

theorem foldl_keeps {α β : Type} {f : β → α → β} {P : β → Prop} {Q : α → Prop} (hstep : ∀ b a, P b → Q a → P (f b a)) :
    ∀ (l : List α) (b : β), P b → (∀ a ∈ l, Q a) → P (l.foldl f b)
  | [], _, hb, _ => hb
  | a :: l, b, hb, hq =>
    foldl_keeps hstep l (f b a) (hstep b a hb (hq a (List.mem_cons_self ..))) fun x hx => hq x (List.mem_cons_of_mem _ hx)

/-- a property of every (place, element) of a list survives writing place `i` if it survives at the other places and holds of the
    new element -/
theorem forall_set {α : Type} {l : List α} {i : Nat} {a a' : α} {Q Q' : Nat → α → Prop} (ha : l[i]? = some a)
    (hold : ∀ (k : Nat) (x : α), l[k]? = some x → Q k x) (hother : ∀ (k : Nat) (x : α), k ≠ i → Q k x → Q' k x) (hnew : Q' i a') :
    ∀ (k : Nat) (x : α), (l.set i a')[k]? = some x → Q' k x := by
  intro k x hx
  rcases getElem?_set_cases ha hx with ⟨rfl, rfl⟩ | ⟨hk, hx⟩
  · exact hnew
  · exact hother k x (Ne.symm hk) (hold k x hx)

theorem map_set_of_eq {α β : Type} (f : α → β) {l : List α} {i : Nat} {a : α} (a' : α) (h : l[i]? = some a) (hf : f a' = f a) :
    (l.set i a').map f = l.map f := by
  obtain ⟨hi, rfl⟩ := List.getElem?_eq_some_iff.mp h
  rw [List.map_set, hf, ← List.getElem_map f (h := by rwa [List.length_map]), List.set_getElem_self]

theorem sum_map_set {α : Type} (f : α → Int) : ∀ (l : List α) (i : Nat) (a a' : α), l[i]? = some a →
    ((l.set i a').map f).sum = (l.map f).sum - f a + f a'
  | [], i, a, a', h => by simp at h
  | x :: l, 0, a, a', h => by
    simp only [List.getElem?_cons_zero, Option.some.injEq] at h
    subst h
    simp only [List.set_cons_zero, List.map_cons, List.sum_cons]; omega
  | x :: l, i + 1, a, a', h => by
    simp only [List.getElem?_cons_succ] at h
    simp only [List.set_cons_succ, List.map_cons, List.sum_cons, sum_map_set f l i a a' h]; omega

theorem sum_map_set_append {α : Type} (f : α → Int) (l : List α) (i : Nat) (a a' n : α) (h : l[i]? = some a) :
    ((l.set i a' ++ [n]).map f).sum = (l.map f).sum - f a + f a' + f n := by
  rw [List.map_append, List.sum_append, sum_map_set f l i a a' h]
  simp

theorem sum_map_filter {α : Type} (p : α → Bool) (f : α → Int) : ∀ l : List α,
    ((l.filter p).map f).sum = (l.map fun a => if p a then f a else 0).sum
  | [] => rfl
  | a :: l => by
    rw [List.map_cons, List.sum_cons, ← sum_map_filter p f l]
    by_cases h : p a = true <;> simp [h]

end Mfi.ListL
