/-
  Solvency over every sequence of TRANSACTIONS of the world state machine: the ghost ledgers (vault, allowance, write-offs) ride
  along committed transactions — whole instructions move them as in `WorldSolvH`, flash-loan and liquidation starts / ends do not
  touch any bank (`stepIn_cases`) — and a rolled-back transaction moves nothing. Inside a flash loan the health checks are
  skipped; the books and the vault are not.
-/
import Mfi.Lemmas.WorldSolvH

namespace Mfi.World
open Mfi Mfi.Fx Mfi.Bank Mfi.Account Mfi.Gen Mfi.SolvL

/-- instruction `i` of a transaction with its effects on the ghost ledgers -/
def WState.stepInE (w : WState) (tx : List TOp) (i : Nat) (t : TOp) : Option (WState × List Eff) :=
  match t with
  | .ix op => (w.step? op).map fun _ => w.stepE op
  | _ => (w.stepIn tx i t).map fun w' => (w', [])

def WState.runFromE (tx : List TOp) : Nat → List TOp → WState → List Eff → Option (WState × List Eff)
  | _, [], w, es => some (w, es)
  | i, op :: rest, w, es =>
    match w.stepInE tx i op with
    | some (w', e) => WState.runFromE tx (i + 1) rest w' (es ++ e)
    | none => none

/-- a transaction on state and ledgers: committed with all its effects, or rolled back with none -/
def WState.runTxE (w : WState) (g : Ghost) (tx : List TOp) : WState × Ghost :=
  match WState.runFromE tx 0 tx w [] with
  | some (w', es) => (w', g.apply es)
  | none => (w, g)

def WState.runTxsE (w : WState) (g : Ghost) : List (List TOp) → WState × Ghost
  | [] => (w, g)
  | tx :: rest => WState.runTxsE (w.runTxE g tx).1 (w.runTxE g tx).2 rest

theorem apply_append (g : Ghost) (a b : List Eff) : g.apply (a ++ b) = (g.apply a).apply b := by
  unfold Ghost.apply; rw [List.foldl_append]

theorem stepInE_bracket {t : TOp} (hne : ∀ op, t ≠ .ix op) (w : WState) (tx : List TOp) (i : Nat) :
    w.stepInE tx i t = (w.stepIn tx i t).map fun w' => (w', []) := by
  cases t with
  | ix op => exact absurd rfl (hne op)
  | _ => rfl

theorem stepInE_fst (w : WState) (tx : List TOp) (i : Nat) (t : TOp) : (w.stepInE tx i t).map (·.1) = w.stepIn tx i t := by
  by_cases hix : ∃ op, t = .ix op
  · obtain ⟨op, rfl⟩ := hix
    show ((w.step? op).map fun _ => w.stepE op).map (·.1) = w.step? op
    cases hs : w.step? op with
    | none => rfl
    | some w1 => exact congrArg some ((stepE_fst w op).trans (step?_some hs).symm)
  · rw [stepInE_bracket (fun op e => hix ⟨op, e⟩)]; cases w.stepIn tx i t <;> rfl

theorem setAcct_sinv {w : WState} {ai : Nat} {a a' : AcctV} (hi : SInv w) (ha : w.accts[ai]? = some a) (hs : a'.slots = a.slots) :
    SInv { w with accts := w.accts.set ai a' } :=
  ⟨setAcct_inv hi.led ha hs, ListL.forall_set ha hi.slots (fun _ _ _ hq => hq) (hs ▸ hi.slots ai a ha), hi.dust, hi.banks⟩

/-- instructions inside transactions carry unsigned arguments -/
def TOp.Ok : TOp → Prop
  | .ix op => op.Ok
  | _ => True

theorem stepInE_good {tx : List TOp} {i : Nat} {t : TOp} {w w' : WState} {e : List Eff} (g : Ghost)
    (h : w.stepInE tx i t = some (w', e)) (hi : SInv w) (hok : t.Ok) : Good w g w' (g.apply e) := by
  by_cases hix : ∃ op, t = .ix op
  · obtain ⟨op, rfl⟩ := hix
    obtain ⟨_, _, e1⟩ := Option.map_eq_some_iff.mp (show (w.step? op).map (fun _ => w.stepE op) = some (w', e) from h)
    have hg := stepE_good w g op hi hok
    rw [e1] at hg
    exact hg
  · rw [stepInE_bracket (fun op e => hix ⟨op, e⟩)] at h
    obtain ⟨w1, hs, e1⟩ := Option.map_eq_some_iff.mp h
    cases e1
    -- a bracket instruction rewrites one account and no bank
    rcases stepIn_cases hs with ⟨op, rfl, _⟩ | ⟨ai, a, a', ha, rfl, hsl, _⟩
    · exact absurd ⟨op, rfl⟩ hix
    · exact ⟨setAcct_sinv hi ha hsl, (good_refl hi).2⟩

theorem runFromE_good (tx : List TOp) : ∀ (rest : List TOp) (i : Nat) (w w' : WState) (es es' : List Eff) (g : Ghost),
    WState.runFromE tx i rest w es = some (w', es') → SInv w → (∀ t ∈ rest, t.Ok) →
    ∃ e, es' = es ++ e ∧ Good w (g.apply es) w' (g.apply es') := by
  intro rest
  induction rest with
  | nil =>
    intro i w w' es es' g h hi _
    cases h
    exact ⟨[], (List.append_nil _).symm, good_refl hi⟩
  | cons op rest ih =>
    intro i w w' es es' g h hi hok
    revert h
    show (match w.stepInE tx i op with | some (w1, e1) => WState.runFromE tx (i + 1) rest w1 (es ++ e1) | none => none) = some (w', es') → _
    cases hs : w.stepInE tx i op with
    | none => intro h; cases h
    | some p =>
      intro h
      have hg1 := stepInE_good (g.apply es) hs hi (hok op (List.mem_cons_self ..))
      rw [← apply_append] at hg1
      obtain ⟨e, he, hg2⟩ := ih (i + 1) p.1 w' (es ++ p.2) es' g h hg1.1 (fun t ht => hok t (List.mem_cons_of_mem _ ht))
      exact ⟨p.2 ++ e, by rw [he, List.append_assoc], good_trans hg1 hg2⟩

theorem runTxE_good (w : WState) (g : Ghost) (tx : List TOp) (hi : SInv w) (hok : ∀ t ∈ tx, t.Ok) :
    Good w g (w.runTxE g tx).1 (w.runTxE g tx).2 := by
  unfold WState.runTxE
  cases h : WState.runFromE tx 0 tx w [] with
  | none => exact good_refl hi
  | some r =>
    obtain ⟨e, _, hg⟩ := runFromE_good tx tx 0 w r.1 [] r.2 g h hi hok
    exact hg

theorem runFromE_fst (tx : List TOp) : ∀ (rest : List TOp) (i : Nat) (w : WState) (es : List Eff),
    (WState.runFromE tx i rest w es).map (·.1) = WState.runFrom tx i rest w := by
  intro rest
  induction rest with
  | nil => intro i w es; rfl
  | cons op rest ih =>
    intro i w es
    show (match w.stepInE tx i op with | some (w1, e1) => WState.runFromE tx (i + 1) rest w1 (es ++ e1) | none => none).map (fun (p : WState × List Eff) => p.1) =
      match w.stepIn tx i op with | some w1 => WState.runFrom tx (i + 1) rest w1 | none => none
    rw [← stepInE_fst]
    cases w.stepInE tx i op with
    | none => rfl
    | some p => exact ih (i + 1) p.1 (es ++ p.2)

theorem stepIn_sinv {tx : List TOp} {i : Nat} {t : TOp} {w w' : WState} (h : w.stepIn tx i t = some w') (hi : SInv w) (hok : t.Ok) : SInv w' := by
  rcases stepIn_cases h with ⟨op, rfl, hs⟩ | ⟨ai, a, a', ha, rfl, hs, _⟩
  · have e : w' = (w.stepE op).1 := (step?_some hs).trans (stepE_fst w op).symm
    exact e ▸ (stepE_sound w ⟨fun _ => 0, fun _ => 0, fun _ => 0⟩ op hi hok).1
  · exact setAcct_sinv hi ha hs

theorem runFrom_at_sinv (tx : List TOp) (w0 : WState) : ∀ (rest : List TOp) (i : Nat) (w w' : WState), tx.drop i = rest →
    w0.before tx i = some w → WState.runFrom tx i rest w = some w' → SInv w → (∀ t ∈ rest, t.Ok) →
    ∀ (j : Nat) (t : TOp), i ≤ j → tx[j]? = some t →
      ∃ (wj wj' : WState), w0.before tx j = some wj ∧ SInv wj ∧ wj.stepIn tx j t = some wj' := by
  intro rest i w w' hd hb h hi hok j t hij hj
  have hok' : ∀ (k : Nat) (t : TOp), i ≤ k → tx[k]? = some t → t.Ok := fun k t hk hk' => hok t (by
    rw [← hd]; exact List.mem_of_getElem? (show (tx.drop i)[k - i]? = some t by rw [List.getElem?_drop, Nat.add_sub_cancel' hk]; exact hk'))
  -- the invariant carried: `SInv`, at a position from `i` on (where the arguments are unsigned)
  obtain ⟨wj, wj', hbj, ⟨_, hsj⟩, hs⟩ := (runFrom_ind_b (I := fun k wk => i ≤ k ∧ SInv wk)
    (fun k t w w' ht hs hI => ⟨Nat.le_succ_of_le hI.1, stepIn_sinv hs hI.2 (hok' k t hI.1 ht)⟩) rest i w w' hd hb h ⟨Nat.le_refl i, hi⟩).2 j t hij hj
  exact ⟨wj, wj', hbj, hsj, hs⟩

theorem runTx_at_sinv {w w' : WState} {tx : List TOp} (h : w.runTx tx = some w') (hi : SInv w) (hok : ∀ t ∈ tx, t.Ok)
    {i : Nat} {t : TOp} (hix : tx[i]? = some t) : ∃ (wi wi' : WState), w.before tx i = some wi ∧ SInv wi ∧ wi.stepIn tx i t = some wi' :=
  runFrom_at_sinv tx w tx 0 w w' rfl rfl h hi hok i t (Nat.zero_le _) hix

end Mfi.World
