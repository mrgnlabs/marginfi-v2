/- What a slot array holds in one bank (`posA`, `posL`), also as a sum of per-slot contributions, so that the sort, a write at one
   place and `find_or_create` are instances of `List` lemmas. -/
import Mfi.Lemmas.AccountL
import Mfi.Lemmas.ListL
namespace Mfi.World
open Mfi Mfi.Gen Mfi.Account

/-- the deposit shares an array holds in bank `k` (every active slot naming `k`) -/
def posA (k : Nat) (l : List Slot) : Int := ((l.filter fun s => s.active && s.bank == k).map (·.a)).sum
def posL (k : Nat) (l : List Slot) : Int := ((l.filter fun s => s.active && s.bank == k).map (·.l)).sum

theorem perm_sum_int {l₁ l₂ : List Int} (h : l₁.Perm l₂) : l₁.sum = l₂.sum := by
  induction h with
  | nil => rfl
  | cons x _ ih => simp [ih]
  | swap x y l => simp only [List.sum_cons]; omega
  | trans _ _ ih1 ih2 => omega

theorem posA_sort (k : Nat) (l : List Slot) : posA k (sortBalances l) = posA k l :=
  perm_sum_int (((sort_perm l).filter _).map _)
theorem posL_sort (k : Nat) (l : List Slot) : posL k (sortBalances l) = posL k l :=
  perm_sum_int (((sort_perm l).filter _).map _)
theorem pos_sort (l : List Slot) (k : Nat) : posA k (sortBalances l) = posA k l ∧ posL k (sortBalances l) = posL k l :=
  ⟨posA_sort k l, posL_sort k l⟩

/-- what one slot contributes -/
def ctrA (k : Nat) (s : Slot) : Int := if s.active && s.bank == k then s.a else 0
def ctrL (k : Nat) (s : Slot) : Int := if s.active && s.bank == k then s.l else 0

theorem posA_eq_sum (k : Nat) (l : List Slot) : posA k l = (l.map (ctrA k)).sum := ListL.sum_map_filter _ _ l
theorem posL_eq_sum (k : Nat) (l : List Slot) : posL k l = (l.map (ctrL k)).sum := ListL.sum_map_filter _ _ l

theorem posA_set (k : Nat) : ∀ (l : List Slot) (i : Nat) (s s' : Slot), l[i]? = some s →
    posA k (l.set i s') = posA k l - ctrA k s + ctrA k s' :=
  fun l i s s' h => by rw [posA_eq_sum, posA_eq_sum, ListL.sum_map_set (ctrA k) l i s s' h]
theorem posL_set (k : Nat) : ∀ (l : List Slot) (i : Nat) (s s' : Slot), l[i]? = some s →
    posL k (l.set i s') = posL k l - ctrL k s + ctrL k s' :=
  fun l i s s' h => by rw [posL_eq_sum, posL_eq_sum, ListL.sum_map_set (ctrL k) l i s s' h]

theorem findOrCreate_pos {l l' : List Slot} {bank : Nat} {tag now : Int} {i : Nat}
    (h : findOrCreate l bank tag now = .ok (l', i)) :
    (∀ k, posA k l' = posA k l ∧ posL k l' = posL k l) ∧ ∃ s, l'[i]? = some s ∧ s.active = true ∧ s.bank = bank := by
  rcases findOrCreate_ok h with ⟨hf, rfl⟩ | ⟨_, ⟨e, hie, hea⟩, rfl⟩
  · exact ⟨fun k => ⟨rfl, rfl⟩, findIdx_some hf⟩
  · refine ⟨fun k => ⟨?_, ?_⟩, _, List.getElem?_set_self (List.getElem?_eq_some_iff.mp hie).1, rfl, rfl⟩
    · rw [posA_set k l i _ _ hie]; simp [ctrA, hea]
    · rw [posL_set k l i _ _ hie]; simp [ctrL, hea]

end Mfi.World
