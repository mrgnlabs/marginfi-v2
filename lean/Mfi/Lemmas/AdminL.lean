/- `Bank::configure` of Mfi/Model/Admin.lean read backwards (for C12 and C13). -/
import Mfi.Model.Admin
import Mfi.Lemmas.ResL

namespace Mfi.Admin
open Mfi Mfi.Gen

/-- what a successful `Bank::configure` has checked, and the flag word it leaves -/
theorem configure_ok {c c' : Cfg} {flags f' : Nat} {o : CfgOpt} (h : configure c flags o = .ok (c', f')) :
    stateGuard c.opState o.opState = .ok () ∧ validateCfg c' = .ok () ∧ c'.opState = setIf c.opState o.opState ∧
    f' = applyFlag (applyFlag (applyFlag flags PERMISSIONLESS_BAD_DEBT_SETTLEMENT_FLAG o.permissionlessBadDebt)
      FREEZE_SETTINGS o.freezeSettings) TOKENLESS_REPAYMENTS_ALLOWED o.tokenlessRepaymentsAllowed := by
  unfold configure at h
  obtain ⟨u, hs, h⟩ := Res.bind_ok h
  obtain ⟨_, hv, h⟩ := Res.bind_ok h
  cases u
  cases Res.pure_ok h
  exact ⟨hs, hv, rfl, rfl⟩

end Mfi.Admin
