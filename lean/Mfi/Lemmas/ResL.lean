/- Lemmas to peel `do` blocks in the Res (= Except Fail) monad. -/
import Mfi.Model.Bank

namespace Mfi

/-- For long `do` blocks: `apply Res.bind_elim h; clear h; intro a ha h` peels one `←` without `rcases` re-checking the
    rest of the block and without leaving the old `h` behind (on a block of forty binds this is three to four times
    cheaper to check than `obtain ⟨a, ha, h⟩ := Res.bind_ok h`). -/
theorem Res.bind_elim {α β : Type} {x : Res α} {f : α → Res β} {b : β} {P : Prop} (h : (x >>= f) = .ok b)
    (k : ∀ a, x = .ok a → f a = .ok b → P) : P := by
  cases x with
  | error e => cases h
  | ok a => exact k a rfl h

theorem Res.bind_ok {α β : Type} {x : Res α} {f : α → Res β} {b : β} (h : (x >>= f) = .ok b) :
    ∃ a, x = .ok a ∧ f a = .ok b :=
  Res.bind_elim h fun a ha h => ⟨a, ha, h⟩

/-- `err k` of a model namespace unfolds to `.error (.err k)` by defeq, so this applies to those guards as they stand.
    (`split at h` on a chain of guards re-simplifies the whole remaining chain at every step and is two orders of
    magnitude slower to check.) -/
theorem Res.of_ite_error {α : Type} {c : Prop} [Decidable c] {e : Fail} {r : Res α} {a : α}
    (h : (if c then .error e else r) = .ok a) : ¬ c ∧ r = .ok a := by
  by_cases hc : c
  · rw [if_pos hc] at h; cases h
  · rw [if_neg hc] at h; exact ⟨hc, h⟩

theorem Res.of_ite_not_error {α : Type} {c : Prop} [Decidable c] {e : Fail} {r : Res α} {a : α}
    (h : (if ¬ c then .error e else r) = .ok a) : c ∧ r = .ok a :=
  ⟨Decidable.not_not.mp (Res.of_ite_error h).1, (Res.of_ite_error h).2⟩

theorem Res.of_ite_else_error {α : Type} {c : Prop} [Decidable c] {e : Fail} {r : Res α} {a : α}
    (h : (if c then r else .error e) = .ok a) : c ∧ r = .ok a := by
  by_cases hc : c
  · rw [if_pos hc] at h; exact ⟨hc, h⟩
  · rw [if_neg hc] at h; cases h

theorem opt_ite_none {α : Type} {c : Prop} [Decidable c] {r : Option α} {a : α} (h : (if c then none else r) = some a) :
    ¬ c ∧ r = some a := by
  by_cases hc : c
  · rw [if_pos hc] at h; cases h
  · rw [if_neg hc] at h; exact ⟨hc, h⟩

theorem opt_ite_else_none {α : Type} {c : Prop} [Decidable c] {r : Option α} {a : α} (h : (if c then r else none) = some a) :
    c ∧ r = some a := by
  by_cases hc : c
  · rw [if_pos hc] at h; exact ⟨hc, h⟩
  · rw [if_neg hc] at h; cases h

theorem Res.bind_error {α β : Type} {x : Res α} {f : α → Res β} {e : Fail} (h : (x >>= f) = .error e) :
    x = .error e ∨ ∃ a, x = .ok a ∧ f a = .error e := by
  cases x with
  | error e' => injection h with h; exact Or.inl (by rw [h])
  | ok a => exact Or.inr ⟨a, rfl, h⟩

theorem Res.map_ok {α β : Type} {r : Res α} {f : α → β} {y : β} (h : r.map f = .ok y) : ∃ a, r = .ok a ∧ f a = y := by
  cases r with
  | error e => cases h
  | ok a => exact ⟨a, rfl, by injection h⟩

/-- the unchecked `+` / `-` of I80F48 under overflow-checks: `Interest.addP`, `Interest.subP`, `Risk.addP`, `Risk.subP` and
    `Risk.subOp` all unfold to this `if` by defeq -/
theorem Res.inRange_ok {x r : Int} (h : (if Fx.inRange x then (.ok x : Res Int) else .error .panic) = .ok r) :
    r = x ∧ Fx.MIN ≤ x ∧ x ≤ Fx.MAX := by
  obtain ⟨hr, h⟩ := Res.of_ite_else_error h
  simp only [Fx.inRange, Bool.and_eq_true, decide_eq_true_eq] at hr
  exact ⟨by injection h with h; exact h.symm, hr⟩

theorem Res.isOk_false {α : Type} {r : Res α} (h : ∀ a, r = .ok a → False) : r.isOk = false := by
  cases r with
  | error e => rfl
  | ok a => exact (h a rfl).elim

/-- one guard of a chain: `Bank.chk`, `Tx.guard` and `Admin.need` all unfold to this `if` by defeq -/
theorem Res.guard_bind_ok {b : Bool} {e : Fail} {α : Type} {r : Res α} {x : α}
    (h : ((if b then (.ok () : Res Unit) else .error e) >>= fun _ => r) = .ok x) : b = true ∧ r = .ok x := by
  obtain ⟨_, hg, h⟩ := Res.bind_ok h
  exact ⟨(Res.of_ite_else_error hg).1, h⟩

theorem Res.ofOpt_ok {α : Type} {o : Option α} {a : α} (h : Res.ofOpt o = .ok a) : o = some a := by
  cases o with
  | none => cases h
  | some b => injection h with h; rw [h]

theorem Res.pure_ok {α : Type} {a b : α} (h : (pure a : Res α) = .ok b) : a = b := by
  injection h

theorem opt_bind_some {α β : Type} {x : Option α} {f : α → Option β} {b : β} (h : (x >>= f) = some b) :
    ∃ a, x = some a ∧ f a = some b := by
  cases x with
  | none => cases h
  | some a => exact ⟨a, rfl, h⟩

namespace Bank

theorem math_err {α : Type} {o : Option α} {e : Fail} (h : math o = .error e) : e = .mathErr := by
  cases o with
  | none => injection h with h; exact h.symm
  | some a => cases h

theorem math_ok {α : Type} {o : Option α} {a : α} (h : math o = .ok a) : o = some a := Res.ofOpt_ok h

theorem chk_ok {b : Bool} {c : Nat} (h : chk b c = .ok ()) : b = true := (Res.of_ite_else_error h).1

end Bank
end Mfi
