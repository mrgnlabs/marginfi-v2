/- What an accepted `transfer_to_new_account` went through and left: `Transfer.transfer_ok` for the model of the instruction,
   `World.transferIx_closed` for the world machine's view of it. -/
import Mfi.Lemmas.WorldL

namespace Mfi.Transfer
open Mfi Mfi.Gen

theorem transfer_ok {old o n : MAcct} {oldKey g ga cfw signer newKey newAuth fw : Nat} {p : Bool} {now : Int}
    (h : transfer old oldKey g ga cfw p signer newKey newAuth fw now = .ok (o, n)) :
    p = false ∧ old.group = g ∧ Auth.notFrozenForAuthority (view old) signer = true ∧
    Auth.isSignerAuthorized (view old) ga signer false = true ∧ fw = cfw ∧
    old.flash = false ∧ old.recv = false ∧ old.migratedTo = 0 ∧
    o = { old with migratedTo := newKey, lastUpdate := now, slots := zeroedSlots, disabled := true } ∧
    n = { old with authority := newAuth, migratedFrom := oldKey, migratedTo := 0, lastUpdate := now } := by
  unfold transfer at h
  obtain ⟨h1, h⟩ := Res.of_ite_error h
  obtain ⟨h2, h⟩ := Res.of_ite_not_error h
  obtain ⟨h3, h⟩ := Res.of_ite_error h
  obtain ⟨h4, h⟩ := Res.of_ite_error h
  obtain ⟨h5, h⟩ := Res.of_ite_not_error h
  obtain ⟨h6, h⟩ := Res.of_ite_error h
  obtain ⟨h7, h⟩ := Res.of_ite_error h
  obtain ⟨h8, h⟩ := Res.of_ite_not_error h
  injection h with h
  injection h with ho hn
  exact ⟨Bool.of_not_eq_true h1, h2, by simpa using h3, by simpa using h4, h5,
    Bool.of_not_eq_true h6, Bool.of_not_eq_true h7, h8, ho.symm, hn.symm⟩

/-- the migration link is written once: a transfer goes through only from `migratedTo = 0` and links the old account to the new key -/
theorem transfer_link {old o n : MAcct} {oldKey g ga cfw signer newKey newAuth fw : Nat} {p : Bool} {now : Int}
    (h : transfer old oldKey g ga cfw p signer newKey newAuth fw now = .ok (o, n)) : old.migratedTo = 0 ∧ o.migratedTo = newKey := by
  obtain ⟨_, _, _, _, _, _, _, hm, rfl, _⟩ := transfer_ok h
  exact ⟨hm, rfl⟩

end Mfi.Transfer

namespace Mfi.World
open Mfi Mfi.Gen

/-- `toMAcct` splits the flag word into four named bits and the rest; `ofMAcct` puts the low 64 bits together again -/
theorem flags_recompose (f : Nat) :
    ((if f.testBit 0 then 1 else 0) ||| (if f.testBit 1 then 2 else 0) ||| (if f.testBit 4 then 16 else 0) |||
      (if f.testBit 6 then 64 else 0)) ||| (f &&& OTHER_FLAGS_MASK) = f &&& (2 ^ 64 - 1) := by
  have e : (2 ^ 64 - 1 : Nat) = 2 ^ 0 ||| 2 ^ 1 ||| 2 ^ 4 ||| 2 ^ 6 ||| OTHER_FLAGS_MASK := by decide
  rw [e]
  simp only [Nat.and_or_distrib_left, and_two_pow_ite]
  rfl

theorem flags_recompose_disabled (f : Nat) :
    (1 ||| (if f.testBit 1 then 2 else 0) ||| (if f.testBit 4 then 16 else 0) ||| (if f.testBit 6 then 64 else 0)) |||
      (f &&& OTHER_FLAGS_MASK) = f &&& (2 ^ 64 - 1) ||| 1 := by
  rw [← flags_recompose f]
  cases f.testBit 0
  · simp only [Bool.false_eq_true, if_false, Nat.zero_or]; ac_rfl
  · simp only [if_true]; ac_rfl

/-- a successful `World.transferIx`: the guards, and both accounts in closed form (neither carries a liquidation record) -/
structure TransferOk (g : GroupV) (a : AcctV) (signer newKey newAuth : Nat) (ok : Bool) (o n : AcctV) : Prop where
  notPaused : g.paused = false
  group : a.group = g.key
  notFrozen : Auth.notFrozenForAuthority (Transfer.view (toMAcct a)) signer = true
  signer : Auth.isSignerAuthorized (Transfer.view (toMAcct a)) g.admin signer false = true
  feeWallet : ok = true
  noFlash : a.flags.testBit 1 = false
  noRecv : a.flags.testBit 4 = false
  fresh : a.migratedTo = 0
  old : o = { key := a.key, group := a.group, authority := a.authority, flags := a.flags &&& (2 ^ 64 - 1) ||| 1,
              slots := Transfer.zeroedSlots, migratedTo := newKey }
  new : n = { key := newKey, group := a.group, authority := newAuth, flags := a.flags &&& (2 ^ 64 - 1), slots := a.slots }

theorem transferIx_closed {g : GroupV} {a o n : AcctV} {signer newKey newAuth : Nat} {ok : Bool}
    (h : transferIx g a signer newKey newAuth ok = .ok (o, n)) : TransferOk g a signer newKey newAuth ok o n := by
  obtain ⟨⟨mo, mn⟩, ht, hon⟩ := Res.map_ok h
  injection hon with ho hn
  obtain ⟨h1, h2, h3, h4, h5, h6, h7, h8, rfl, rfl⟩ := Transfer.transfer_ok ht
  refine ⟨h1, h2, h3, h4, (by cases ok with | false => cases h5 | true => rfl), h6, h7, h8, ?_, ?_⟩
  · rw [← ho]
    exact congrArg (fun fl => AcctV.mk a.key a.group a.authority fl Transfer.zeroedSlots newKey 0 ⟨0, 0, 0, 0⟩)
      (flags_recompose_disabled a.flags)
  · rw [← hn]
    exact congrArg (fun fl => AcctV.mk newKey a.group newAuth fl a.slots 0 0 ⟨0, 0, 0, 0⟩) (flags_recompose a.flags)

theorem TransferOk.bits {g : GroupV} {a o n : AcctV} {signer newKey newAuth : Nat} {ok : Bool}
    (k : TransferOk g a signer newKey newAuth ok o n) {i : Nat} (h0 : i ≠ 0) (h64 : i < 64) :
    o.flags.testBit i = a.flags.testBit i ∧ n.flags.testBit i = a.flags.testBit i := by
  have h1 : Nat.testBit 1 i = false := by
    rw [show (1 : Nat) = 2 ^ 0 from rfl, Nat.testBit_two_pow]; simpa using Ne.symm h0
  rw [k.old, k.new]
  simp only [Nat.testBit_or, Nat.testBit_and, Nat.testBit_two_pow_sub_one, h1, h64, decide_true, Bool.and_true, Bool.or_false, and_self]

theorem transferIx_marks {g : GroupV} {a o n : AcctV} {signer newKey newAuth : Nat} {ok : Bool}
    (h : transferIx g a signer newKey newAuth ok = .ok (o, n)) :
    (hasFlag o.flags ACCOUNT_IN_FLASHLOAN = false ∧ hasFlag n.flags ACCOUNT_IN_FLASHLOAN = false) ∧
    (hasFlag o.flags ACCOUNT_IN_RECEIVERSHIP = false ∧ hasFlag n.flags ACCOUNT_IN_RECEIVERSHIP = false) ∧
    (o.recReceiver = 0 ∧ n.recReceiver = 0) := by
  have k := transferIx_closed h
  obtain ⟨f1, f2⟩ := k.bits (i := 1) (by decide) (by decide)
  obtain ⟨r1, r2⟩ := k.bits (i := 4) (by decide) (by decide)
  refine ⟨⟨?_, ?_⟩, ⟨?_, ?_⟩, by rw [k.old], by rw [k.new]⟩
  · rw [hasFlag_bit FLASH_bit, f1, k.noFlash]
  · rw [hasFlag_bit FLASH_bit, f2, k.noFlash]
  · rw [hasFlag_bit RECV_bit, r1, k.noRecv]
  · rw [hasFlag_bit RECV_bit, r2, k.noRecv]

end Mfi.World
