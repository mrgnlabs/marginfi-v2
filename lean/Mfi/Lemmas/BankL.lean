/- The bank and wrapper operations of Mfi/Model/Bank.lean, each characterised once: from `op … = .ok result` to what it did —
   step by step (`IncSpec`, `DecSpec`) and in closed form (`Moved`, `withdrawAll_closed`, …). -/
import Mfi.Lemmas.FxL
import Mfi.Lemmas.ResL

namespace Mfi.Bank
open Mfi Mfi.Fx Mfi.Gen

theorem changeAsset_ok {b b' : Bank} {s : Int} {bp : Bool} (h : changeAssetShares b s bp = .ok b') :
    b' = { b with sa := b.sa + s } ∧ MIN ≤ b.sa + s ∧ b.sa + s ≤ MAX ∧
    (0 < s → bp = false → b.depositLimit ≠ U64MAX →
      ∃ t lim, assetAmount b' b'.sa = .ok t ∧ depositLimitFx b' = .ok lim ∧ t < lim) := by
  unfold changeAssetShares at h
  obtain ⟨sa', h1, h⟩ := Res.bind_ok h
  obtain ⟨rfl, r0, r1⟩ := add?_some (math_ok h1)
  dsimp only at h
  by_cases hc : (decide (s > 0) && depositLimitActive { b with sa := b.sa + s } && !bp) = true
  · rw [if_pos hc] at h
    obtain ⟨t, h2, h⟩ := Res.bind_ok h
    obtain ⟨lim, h3, h⟩ := Res.bind_ok h
    obtain ⟨hlt, h⟩ := Res.of_ite_error h
    cases Res.pure_ok h
    exact ⟨rfl, r0, r1, fun _ _ _ => ⟨t, lim, h2, h3, Int.not_le.1 hlt⟩⟩
  · rw [if_neg hc] at h
    cases Res.pure_ok h
    exact ⟨rfl, r0, r1, fun hs hbp hact => absurd (by simp [hs, hbp, depositLimitActive, hact]) hc⟩

theorem changeLiab_ok {b b' : Bank} {s : Int} {bp : Bool} (h : changeLiabShares b s bp = .ok b') :
    b' = { b with sl := b.sl + s } ∧ MIN ≤ b.sl + s ∧ b.sl + s ≤ MAX ∧
    (0 < s → bp = false → b.borrowLimit ≠ U64MAX → ∃ t, liabAmount b' b'.sl = .ok t ∧ t < ofInt b'.borrowLimit) := by
  unfold changeLiabShares at h
  obtain ⟨sl', h1, h⟩ := Res.bind_ok h
  obtain ⟨rfl, r0, r1⟩ := add?_some (math_ok h1)
  dsimp only at h
  by_cases hc : (!bp && decide (s > 0) && borrowLimitActive { b with sl := b.sl + s }) = true
  · rw [if_pos hc] at h
    obtain ⟨t, h2, h⟩ := Res.bind_ok h
    obtain ⟨hlt, h⟩ := Res.of_ite_error h
    cases Res.pure_ok h
    exact ⟨rfl, r0, r1, fun _ _ _ => ⟨t, h2, Int.not_le.1 hlt⟩⟩
  · rw [if_neg hc] at h
    cases Res.pure_ok h
    exact ⟨rfl, r0, r1, fun hs hbp hact => absurd (by simp [hs, hbp, borrowLimitActive, hact]) hc⟩

theorem changeAsset_exceeded {b : Bank} {s lim : Int} {bp : Bool} (hlim : depositLimitFx b = .ok lim)
    (h : changeAssetShares b s bp = .error (.err E.BankAssetCapacityExceeded)) :
    ∃ tot, mul? (b.sa + s) b.asv = some tot ∧ lim ≤ tot := by
  unfold changeAssetShares at h
  rcases Res.bind_error h with h1 | ⟨sa', h1, h2⟩; clear h
  · cases math_err h1
  obtain rfl := (add?_some (math_ok h1)).1
  dsimp only at h2
  split at h2
  · rcases Res.bind_error h2 with h3 | ⟨tot, h3, h4⟩; clear h2
    · cases math_err h3
    rcases Res.bind_error h4 with h5 | ⟨lim', h5, h6⟩; clear h4
    · cases hlim.symm.trans h5
    cases hlim.symm.trans h5
    by_cases hge : tot ≥ lim
    · exact ⟨tot, math_ok h3, hge⟩
    · rw [if_neg hge] at h6; cases h6
  · cases h2

theorem remainingDepositCapacity_ok {b : Bank} {c : Int} (h : remainingDepositCapacity b = .ok c) :
    (b.depositLimit = U64MAX ∧ c = U64MAX) ∨
    (b.depositLimit ≠ U64MAX ∧ ∃ cur lim, assetAmount b b.sa = .ok cur ∧ depositLimitFx b = .ok lim ∧
      ((lim ≤ cur ∧ c = 0) ∨ (cur < lim ∧ c = (lim - cur - ONE) / ONE ∧ 0 ≤ c ∧ c ≤ U64MAX))) := by
  unfold remainingDepositCapacity at h
  by_cases hact : b.depositLimit = U64MAX
  · rw [if_pos (by simp [depositLimitActive, hact])] at h
    exact Or.inl ⟨hact, (Res.pure_ok h).symm⟩
  · rw [if_neg (by simp [depositLimitActive, hact])] at h
    obtain ⟨cur, hcur, h⟩ := Res.bind_ok h
    obtain ⟨lim, hlim, h⟩ := Res.bind_ok h
    refine Or.inr ⟨hact, cur, lim, hcur, hlim, ?_⟩
    by_cases hge : cur ≥ lim
    · rw [if_pos hge] at h
      exact Or.inl ⟨hge, (Res.pure_ok h).symm⟩
    · rw [if_neg hge] at h
      obtain ⟨r1, e1, h⟩ := Res.bind_ok h
      obtain ⟨r2, e2, h⟩ := Res.bind_ok h
      obtain rfl := (sub?_some (math_ok e1)).1
      obtain rfl := (sub?_some (math_ok e2)).1
      exact Or.inr ⟨Int.not_le.1 hge, toU64?_floor (math_ok h)⟩

theorem claimEmissions_ok {b b' : Bank} {x x' : Balance} {now : Int} (h : claimEmissions b x now = .ok (b', x')) :
    ∃ credit : Int,
      b' = { b with emissionsRemaining := b.emissionsRemaining - credit } ∧
      x' = { x with emis := x.emis + credit, lastUpdate := now } ∧
      (credit = 0 ∨ ∃ amount lu em,
        emissionsBase b x = .ok (some amount) ∧
        lu = (if x.lastUpdate < MIN_EMISSIONS_START_TIME then now else x.lastUpdate) ∧ 0 ≤ now - lu ∧
        calcEmissions (ofInt (now - lu)) amount (balanceDecimals b) (ofInt b.emissionsRate) = .ok em ∧
        credit = min em b.emissionsRemaining) := by
  unfold claimEmissions at h
  obtain ⟨amt, hbase, h⟩ := Res.bind_ok h
  cases amt with
  | none => cases h; exact ⟨0, by rw [Int.sub_zero], by rw [Int.add_zero], Or.inl rfl⟩
  | some amount =>
    obtain ⟨hlu, h⟩ := Res.of_ite_error h
    obtain ⟨em, hem, h⟩ := Res.bind_ok h
    obtain ⟨e', he', h⟩ := Res.bind_ok h
    obtain ⟨r', hr', h⟩ := Res.bind_ok h
    cases h
    exact ⟨_, by rw [(sub?_some (math_ok hr')).1], by rw [(add?_some (math_ok he')).1],
      Or.inr ⟨amount, _, em, hbase, rfl, Int.not_lt.1 hlu, hem, rfl⟩⟩

theorem claim_frame {b b' : Bank} {x x' : Balance} {now : Int} (h : claimEmissions b x now = .ok (b', x')) :
    (∃ r, b' = { b with emissionsRemaining := r }) ∧
    (∃ e, x' = { x with emis := e, lastUpdate := now }) := by
  obtain ⟨_, hb, hx, _⟩ := claimEmissions_ok h
  exact ⟨⟨_, hb⟩, ⟨_, hx⟩⟩

theorem claim_fields {b b' : Bank} {x x' : Balance} {now : Int} (h : claimEmissions b x now = .ok (b', x')) :
    b'.asv = b.asv ∧ b'.lsv = b.lsv ∧ x'.a = x.a ∧ x'.l = x.l := by
  obtain ⟨⟨r, rfl⟩, ⟨e, rfl⟩⟩ := claim_frame h
  exact ⟨rfl, rfl, rfl, rfl⟩

/-- the amounts read after the claim are the position's amounts before it: a claim moves neither shares nor share values -/
theorem claim_amounts {b b' : Bank} {x x' : Balance} {now va vl : Int} (hc : claimEmissions b x now = .ok (b', x'))
    (ha : assetAmount b' x'.a = .ok va) (hl : liabAmount b' x'.l = .ok vl) :
    va = x.a * b.asv / ONE ∧ vl = x.l * b.lsv / ONE ∧ assetAmount b x.a = .ok va ∧ liabAmount b x.l = .ok vl := by
  obtain ⟨⟨r, rfl⟩, ⟨e, rfl⟩⟩ := claim_frame hc
  exact ⟨(mul?_some (math_ok ha)).1, (mul?_some (math_ok hl)).1, ha, hl⟩

theorem updateCounts_frame (b : Bank) (p q r s : Bool) :
    ∃ lc bc, updateCounts b p q r s = { b with lendCnt := lc, borrowCnt := bc } := by
  unfold updateCounts
  cases p <;> cases q <;> cases r <;> cases s <;> exact ⟨_, _, rfl⟩

theorem incGuard_ok {t : IncType} {a l : Int} (h : incGuard t a l = .ok ()) :
    (t = .repayOnly → isZeroTol a ZERO_AMOUNT_THRESHOLD = true) ∧ (t = .depositOnly → isZeroTol l ZERO_AMOUNT_THRESHOLD = true) :=
  ⟨fun ht => by subst ht; exact chk_ok h, fun ht => by subst ht; exact chk_ok h⟩

theorem decGuard_ok {t : DecType} {a l : Int} (h : decGuard t a l = .ok ()) :
    (t = .withdrawOnly → isZeroTol l ZERO_AMOUNT_THRESHOLD = true) ∧ (t = .borrowOnly → isZeroTol a ZERO_AMOUNT_THRESHOLD = true) :=
  ⟨fun ht => by subst ht; exact chk_ok h, fun ht => by subst ht; exact chk_ok h⟩

theorem closeBalance_ok {x x' : Balance} {c : Bool} (h : closeBalance x c = .ok x') : x' = emptyDeactivated :=
  (Res.pure_ok (Res.of_ite_error h).2).symm

theorem assetShares_eq {b : Bank} {v s : Int} (h : assetShares b v = .ok s) : s = sharesOf v b.asv := by
  unfold assetShares at h
  by_cases h0 : b.asv = 0
  · rw [if_pos h0] at h; rw [h0, sharesOf_sv_zero, Res.pure_ok h]
  · rw [if_neg h0] at h; exact div?_sharesOf (math_ok h)

theorem liabShares_eq {b : Bank} {v s : Int} (h : liabShares b v = .ok s) : s = sharesOf v b.lsv :=
  div?_sharesOf (math_ok h)

/-- Everything a successful `increase_balance_internal` did, step by step. -/
structure IncSpec (b0 : Bank) (x0 : Balance) (now delta : Int) (t : IncType) (b' : Bank) (x' : Balance) : Prop where
  ex : ∃ (b1 : Bank) (x1 : Balance) (curL d aInc lDec : Int) (b2 b3 : Bank),
    claimEmissions b0 x0 now = .ok (b1, x1) ∧
    liabAmount b1 x1.l = .ok curL ∧
    sub? delta curL = some d ∧
    (t = .repayOnly → isZeroTol (max d 0) ZERO_AMOUNT_THRESHOLD = true) ∧
    (t = .depositOnly → isZeroTol (min curL delta) ZERO_AMOUNT_THRESHOLD = true) ∧
    assetShares b1 (max d 0) = .ok aInc ∧
    changeAssetShares b1 aInc (t == .bypassDepositLimit) = .ok b2 ∧
    liabShares b2 (min curL delta) = .ok lDec ∧
    changeLiabShares b2 (-lDec) true = .ok b3 ∧
    MIN ≤ x1.a + aInc ∧ x1.a + aInc ≤ MAX ∧ MIN ≤ x1.l - lDec ∧ x1.l - lDec ≤ MAX ∧
    x' = { x1 with a := x1.a + aInc, l := x1.l - lDec } ∧
    (∃ lc bc, b' = { b3 with lendCnt := lc, borrowCnt := bc })

theorem increase_spec {b0 : Bank} {x0 : Balance} {now delta : Int} {t : IncType} {b' : Bank} {x' : Balance}
    (h : increaseBalance b0 x0 now delta t = .ok (b', x')) : IncSpec b0 x0 now delta t b' x' := by
  unfold increaseBalance at h
  apply Res.bind_elim h; clear h; rintro ⟨b1, x1⟩ hc h
  dsimp only at h
  apply Res.bind_elim h; clear h; intro curL hl h
  apply Res.bind_elim h; clear h; intro d hd h
  apply Res.bind_elim h; clear h; intro _ hg h
  apply Res.bind_elim h; clear h; intro aInc ha h
  apply Res.bind_elim h; clear h; intro a' ha' h
  apply Res.bind_elim h; clear h; intro b2 hb2 h
  apply Res.bind_elim h; clear h; intro lDec hld h
  apply Res.bind_elim h; clear h; intro l' hl' h
  apply Res.bind_elim h; clear h; intro b3 hb3 h
  cases h
  obtain ⟨rfl, ra0, ra1⟩ := add?_some (math_ok ha')
  obtain ⟨rfl, rl0, rl1⟩ := add?_some (math_ok hl')
  exact ⟨⟨b1, x1, curL, d, aInc, lDec, b2, b3, hc, hl, math_ok hd, (incGuard_ok hg).1, (incGuard_ok hg).2, ha, hb2, hld, hb3,
    ra0, ra1, rl0, rl1, rfl, updateCounts_frame ..⟩⟩

/-- Everything a successful `decrease_balance_internal` did. -/
structure DecSpec (b0 : Bank) (x0 : Balance) (now delta : Int) (t : DecType) (b' : Bank) (x' : Balance) : Prop where
  ex : ∃ (b1 : Bank) (x1 : Balance) (curA d aDec lInc : Int) (b2 b3 : Bank),
    claimEmissions b0 x0 now = .ok (b1, x1) ∧
    assetAmount b1 x1.a = .ok curA ∧
    sub? delta curA = some d ∧
    (t = .withdrawOnly → isZeroTol (max d 0) ZERO_AMOUNT_THRESHOLD = true) ∧
    (t = .borrowOnly → isZeroTol (min curA delta) ZERO_AMOUNT_THRESHOLD = true) ∧
    assetShares b1 (min curA delta) = .ok aDec ∧
    changeAssetShares b1 (-aDec) false = .ok b2 ∧
    liabShares b2 (max d 0) = .ok lInc ∧
    changeLiabShares b2 lInc (t == .bypassBorrowLimit) = .ok b3 ∧
    (t ≠ .bypassBorrowLimit → checkUtilization b3 = .ok ()) ∧
    MIN ≤ x1.a - aDec ∧ x1.a - aDec ≤ MAX ∧ MIN ≤ x1.l + lInc ∧ x1.l + lInc ≤ MAX ∧
    x' = { x1 with a := x1.a - aDec, l := x1.l + lInc } ∧
    (∃ lc bc, b' = { b3 with lendCnt := lc, borrowCnt := bc })

theorem decrease_spec {b0 : Bank} {x0 : Balance} {now delta : Int} {t : DecType} {b' : Bank} {x' : Balance}
    (h : decreaseBalance b0 x0 now delta t = .ok (b', x')) : DecSpec b0 x0 now delta t b' x' := by
  unfold decreaseBalance at h
  apply Res.bind_elim h; clear h; rintro ⟨b1, x1⟩ hc h
  dsimp only at h
  apply Res.bind_elim h; clear h; intro curA hl h
  apply Res.bind_elim h; clear h; intro d hd h
  apply Res.bind_elim h; clear h; intro _ hg h
  apply Res.bind_elim h; clear h; intro aDec ha h
  apply Res.bind_elim h; clear h; intro a' ha' h
  apply Res.bind_elim h; clear h; intro b2 hb2 h
  apply Res.bind_elim h; clear h; intro lInc hld h
  apply Res.bind_elim h; clear h; intro l' hl' h
  apply Res.bind_elim h; clear h; intro b3 hb3 h
  apply Res.bind_elim h; clear h; intro _ hut h
  cases h
  obtain ⟨rfl, ra0, ra1⟩ := add?_some (math_ok ha')
  obtain ⟨rfl, rl0, rl1⟩ := add?_some (math_ok hl')
  exact ⟨⟨b1, x1, curA, d, aDec, lInc, b2, b3, hc, hl, math_ok hd, (decGuard_ok hg).1, (decGuard_ok hg).2, ha, hb2, hld, hb3,
    fun ht => by rwa [utilGuard, if_neg ht] at hut, ra0, ra1, rl0, rl1, rfl, updateCounts_frame ..⟩⟩

/-- All that a successful `increase_balance_internal` / `decrease_balance_internal` does to what the accounting reads: `da`
    deposit shares and `dl` debt shares are added to the bank's totals AND to the position. (The rest is emissions
    bookkeeping, the position counters and the position's timestamp.) -/
structure Moved (b0 : Bank) (x0 : Balance) (da dl : Int) (b' : Bank) (x' : Balance) : Prop where
  sa : b'.sa = b0.sa + da
  sl : b'.sl = b0.sl + dl
  asv : b'.asv = b0.asv
  lsv : b'.lsv = b0.lsv
  feeI : b'.feeI = b0.feeI
  feeG : b'.feeG = b0.feeG
  feeP : b'.feeP = b0.feeP
  a : x'.a = x0.a + da
  l : x'.l = x0.l + dl
  active : x'.active = x0.active

/-- `increase_balance_internal` in closed form over the initial bank and position. The deposit cap is checked on the bank as
    `claim_emissions` left it, the debt shares and the position counters are written after it; of `delta`, what the current debt
    `x0.l·lsv` absorbs is taken off the debt side, the rest is put on the deposit side. -/
theorem increase_closed {b0 b' : Bank} {x0 x' : Balance} {now delta : Int} {t : IncType}
    (h : increaseBalance b0 x0 now delta t = .ok (b', x')) :
    ∃ r da dl lc bc e,
      changeAssetShares { b0 with emissionsRemaining := r } da (t == .bypassDepositLimit) =
        .ok { b0 with emissionsRemaining := r, sa := b0.sa + da } ∧
      b' = { b0 with sa := b0.sa + da, sl := b0.sl + dl, emissionsRemaining := r, lendCnt := lc, borrowCnt := bc } ∧
      x' = { x0 with a := x0.a + da, l := x0.l + dl, emis := e, lastUpdate := now } ∧
      da = sharesOf (max (delta - x0.l * b0.lsv / ONE) 0) b0.asv ∧ dl = -sharesOf (min (x0.l * b0.lsv / ONE) delta) b0.lsv := by
  obtain ⟨b1, x1, curL, d, aInc, lDec, b2, b3, hc, hcur, hsub, _, _, ha, hb2, hld, hb3, _, _, _, _, hx', ⟨lc, bc, hb'⟩⟩ :=
    (increase_spec h).ex
  obtain ⟨⟨r, rfl⟩, ⟨e, rfl⟩⟩ := claim_frame hc
  obtain ⟨e2, _, _⟩ := changeAsset_ok hb2
  obtain ⟨e3, _, _⟩ := changeLiab_ok hb3
  obtain rfl := (mul?_some (math_ok hcur)).1
  obtain rfl := (sub?_some hsub).1
  rw [e2] at hld
  exact ⟨r, aInc, -lDec, lc, bc, e, e2 ▸ hb2, by rw [hb', e3, e2], hx', assetShares_eq ha, by rw [liabShares_eq hld]⟩

/-- `decrease_balance_internal` in closed form. The borrow cap is checked after the deposit shares have moved, the utilisation on
    the result; of `delta`, what the current deposit `x0.a·asv` covers is taken off the deposit side, the rest is put on the debt
    side, converted at a debt share value that must not be zero. -/
theorem decrease_closed {b0 b' : Bank} {x0 x' : Balance} {now delta : Int} {t : DecType}
    (h : decreaseBalance b0 x0 now delta t = .ok (b', x')) :
    ∃ r da dl lc bc e,
      changeLiabShares { b0 with emissionsRemaining := r, sa := b0.sa + da } dl (t == .bypassBorrowLimit) =
        .ok { b0 with emissionsRemaining := r, sa := b0.sa + da, sl := b0.sl + dl } ∧
      (t ≠ .bypassBorrowLimit →
        checkUtilization { b0 with emissionsRemaining := r, sa := b0.sa + da, sl := b0.sl + dl } = .ok ()) ∧
      b' = { b0 with sa := b0.sa + da, sl := b0.sl + dl, emissionsRemaining := r, lendCnt := lc, borrowCnt := bc } ∧
      x' = { x0 with a := x0.a + da, l := x0.l + dl, emis := e, lastUpdate := now } ∧
      da = -sharesOf (min (x0.a * b0.asv / ONE) delta) b0.asv ∧ dl = sharesOf (max (delta - x0.a * b0.asv / ONE) 0) b0.lsv ∧
      b0.lsv ≠ 0 := by
  obtain ⟨b1, x1, curA, d, aDec, lInc, b2, b3, hc, hcur, hsub, _, _, ha, hb2, hld, hb3, hu, _, _, _, _, hx', ⟨lc, bc, hb'⟩⟩ :=
    (decrease_spec h).ex
  obtain ⟨⟨r, rfl⟩, ⟨e, rfl⟩⟩ := claim_frame hc
  obtain ⟨rfl, _, _⟩ := changeAsset_ok hb2
  obtain ⟨e3, _, _⟩ := changeLiab_ok hb3
  obtain rfl := (mul?_some (math_ok hcur)).1
  obtain rfl := (sub?_some hsub).1
  exact ⟨r, -aDec, lInc, lc, bc, e, e3 ▸ hb3, fun ht => e3 ▸ hu ht, by rw [hb', e3], hx', by rw [assetShares_eq ha],
    liabShares_eq hld, (div?_some (math_ok hld)).1⟩

theorem increase_moved {b0 b' : Bank} {x0 x' : Balance} {now delta : Int} {t : IncType}
    (h : increaseBalance b0 x0 now delta t = .ok (b', x')) :
    Moved b0 x0 (sharesOf (max (delta - x0.l * b0.lsv / ONE) 0) b0.asv)
      (-sharesOf (min (x0.l * b0.lsv / ONE) delta) b0.lsv) b' x' := by
  obtain ⟨r, _, _, lc, bc, e, -, rfl, rfl, rfl, rfl⟩ := increase_closed h
  exact ⟨rfl, rfl, rfl, rfl, rfl, rfl, rfl, rfl, rfl, rfl⟩

theorem decrease_moved {b0 b' : Bank} {x0 x' : Balance} {now delta : Int} {t : DecType}
    (h : decreaseBalance b0 x0 now delta t = .ok (b', x')) :
    Moved b0 x0 (-sharesOf (min (x0.a * b0.asv / ONE) delta) b0.asv)
      (sharesOf (max (delta - x0.a * b0.asv / ONE) 0) b0.lsv) b' x' := by
  obtain ⟨r, _, _, lc, bc, e, -, -, rfl, rfl, rfl, rfl, -⟩ := decrease_closed h
  exact ⟨rfl, rfl, rfl, rfl, rfl, rfl, rfl, rfl, rfl, rfl⟩

theorem decrease_lsv_ne {b0 b' : Bank} {x0 x' : Balance} {now delta : Int} {t : DecType}
    (h : decreaseBalance b0 x0 now delta t = .ok (b', x')) : b0.lsv ≠ 0 := by
  obtain ⟨_, _, _, _, _, _, _, _, _, _, _, _, hne⟩ := decrease_closed h
  exact hne

namespace Moved
variable {b0 b' : Bank} {x0 x' : Balance} {da dl : Int} (m : Moved b0 x0 da dl b' x')
include m

theorem delta_eq : b'.sa - b0.sa = x'.a - x0.a ∧ b'.sl - b0.sl = x'.l - x0.l := by
  rw [m.sa, m.sl, m.a, m.l]; omega

theorem net : x'.a * b'.asv - x'.l * b'.lsv = x0.a * b0.asv - x0.l * b0.lsv + (da * b0.asv - dl * b0.lsv) := by
  rw [m.a, m.l, m.asv, m.lsv, Int.add_mul, Int.add_mul]; omega

end Moved

theorem withdrawAll_closed {b0 b' : Bank} {x0 x' : Balance} {now amt : Int} (h : withdrawAll b0 x0 now = .ok (b', x', amt)) :
    (∃ r lc, b' = { b0 with sa := b0.sa + -x0.a, feeI := x0.a * b0.asv / ONE - amt * ONE + b0.feeI,
                            emissionsRemaining := r, lendCnt := lc }) ∧
    x' = emptyDeactivated ∧ amt = x0.a * b0.asv / ONE / ONE ∧ 0 ≤ amt ∧ amt ≤ U64MAX ∧
    isPosTol (x0.a * b0.asv / ONE) ZERO_AMOUNT_THRESHOLD = true ∧ isZeroTol (x0.l * b0.lsv / ONE) ZERO_AMOUNT_THRESHOLD = true ∧
    liabAmount b0 x0.l = .ok (x0.l * b0.lsv / ONE) ∧ checkUtilization b' = .ok () := by
  unfold withdrawAll at h
  apply Res.bind_elim h; clear h; rintro ⟨b1, x1⟩ hc h
  dsimp only at h
  apply Res.bind_elim h; clear h; intro curA hcurA h
  apply Res.bind_elim h; clear h; intro curL hcurL h
  apply Res.bind_elim h; clear h; intro _ hpos h
  apply Res.bind_elim h; clear h; intro _ hz h
  apply Res.bind_elim h; clear h; intro bal' hclose h
  apply Res.bind_elim h; clear h; intro b2 hb2 h
  apply Res.bind_elim h; clear h; intro _ hu h
  apply Res.bind_elim h; clear h; intro dust hdust h
  apply Res.bind_elim h; clear h; intro f hf h
  apply Res.bind_elim h; clear h; intro amt' hamt h
  cases h
  obtain ⟨rfl, rfl, _, hcurL⟩ := claim_amounts hc hcurA hcurL
  obtain ⟨⟨r, hb1⟩, _⟩ := claim_frame hc
  obtain ⟨e2, _, _⟩ := changeAsset_ok hb2
  obtain rfl := (sub?_some (math_ok hdust)).1
  obtain rfl := (add?_some (math_ok hf)).1
  obtain ⟨ea, a0, a1⟩ := toU64?_floor (math_ok hamt)
  refine ⟨⟨r, satI32 (b0.lendCnt - 1), ?_⟩, closeBalance_ok hclose, ea, a0, a1, chk_ok hpos, chk_ok hz, hcurL, hu⟩
  -- the record: `b2` is `b1` less the position's shares (`e2`; the claim left them alone), `b1` is `b0` up to the emissions remainder (`hb1`)
  rw [e2, (claim_fields hc).2.2.1, hb1, ea]; rfl

theorem repayAll_closed {b0 b' : Bank} {x0 x' : Balance} {now amt : Int} (h : repayAll b0 x0 now = .ok (b', x', amt)) :
    (∃ r bc, b' = { b0 with sl := b0.sl + -x0.l, feeI := amt * ONE - x0.l * b0.lsv / ONE + b0.feeI,
                            emissionsRemaining := r, borrowCnt := bc }) ∧
    x' = emptyDeactivated ∧ amt = -(-(x0.l * b0.lsv / ONE) / ONE) ∧ 0 ≤ amt ∧ amt ≤ U64MAX ∧
    isPosTol (x0.l * b0.lsv / ONE) ZERO_AMOUNT_THRESHOLD = true ∧ isZeroTol (x0.a * b0.asv / ONE) ZERO_AMOUNT_THRESHOLD = true := by
  unfold repayAll at h
  apply Res.bind_elim h; clear h; rintro ⟨b1, x1⟩ hc h
  dsimp only at h
  apply Res.bind_elim h; clear h; intro curL hcurL h
  apply Res.bind_elim h; clear h; intro curA hcurA h
  apply Res.bind_elim h; clear h; intro _ hpos h
  apply Res.bind_elim h; clear h; intro _ hz h
  apply Res.bind_elim h; clear h; intro bal' hclose h
  apply Res.bind_elim h; clear h; intro b2 hb2 h
  apply Res.bind_elim h; clear h; intro spl hspl h
  apply Res.bind_elim h; clear h; intro dust hdust h
  apply Res.bind_elim h; clear h; intro f hf h
  apply Res.bind_elim h; clear h; intro amt' hamt h
  cases h
  obtain ⟨rfl, rfl, _, _⟩ := claim_amounts hc hcurA hcurL
  obtain ⟨⟨r, hb1⟩, _⟩ := claim_frame hc
  obtain ⟨e2, _, _⟩ := changeLiab_ok hb2
  obtain rfl := (sub?_some (math_ok hdust)).1
  obtain rfl := (add?_some (math_ok hf)).1
  obtain ⟨ea, a0, a1⟩ := toU64?_ceil (math_ok hspl) (math_ok hamt)
  refine ⟨⟨r, satI32 (b0.borrowCnt - 1), ?_⟩, closeBalance_ok hclose, ea, a0, a1, chk_ok hpos, chk_ok hz⟩
  -- the record, as in `withdrawAll_closed`
  rw [e2, (claim_fields hc).2.2.2, hb1, ea, (ceil?_some (math_ok hspl)).1]

theorem closeBalanceOp_closed {b0 b' : Bank} {x0 x' : Balance} {now : Int} (h : closeBalanceOp b0 x0 now = .ok (b', x')) :
    (∃ r, b' = { b0 with emissionsRemaining := r }) ∧ x' = emptyDeactivated ∧
    isZeroTol (x0.a * b0.asv / ONE) ZERO_AMOUNT_THRESHOLD = true ∧ isZeroTol (x0.l * b0.lsv / ONE) ZERO_AMOUNT_THRESHOLD = true ∧
    assetAmount b0 x0.a = .ok (x0.a * b0.asv / ONE) ∧ liabAmount b0 x0.l = .ok (x0.l * b0.lsv / ONE) := by
  unfold closeBalanceOp at h
  apply Res.bind_elim h; clear h; rintro ⟨b1, x1⟩ hc h
  dsimp only at h
  apply Res.bind_elim h; clear h; intro curL hcl h
  apply Res.bind_elim h; clear h; intro curA hca h
  apply Res.bind_elim h; clear h; intro _ hz1 h
  apply Res.bind_elim h; clear h; intro _ hz2 h
  apply Res.bind_elim h; clear h; intro bal' hclose h
  cases h
  obtain ⟨rfl, rfl, hca, hcl⟩ := claim_amounts hc hca hcl
  exact ⟨(claim_frame hc).1, closeBalance_ok hclose, chk_ok hz2, chk_ok hz1, hca, hcl⟩

theorem stateChangesOrErr_ok {delta ta tl asv lsv : Int} {ir : Interest.IrCalc} {ch : Interest.StateChanges}
    (h : stateChangesOrErr delta ta tl ir asv lsv = .ok ch) : Interest.accrualStateChanges delta ta tl ir asv lsv = .ok ch := by
  unfold stateChangesOrErr at h
  revert h
  cases Interest.accrualStateChanges delta ta tl ir asv lsv with
  | ok c => intro h; rw [Res.pure_ok h]
  | error e => cases e <;> intro h <;> cases h

theorem bumpFee_ok {cur add r : Int} (h : bumpFee cur add = .ok r) : r = cur + (if add > 0 then add else 0) := by
  unfold bumpFee at h
  by_cases hp : add > 0
  · rw [if_pos hp] at h; rw [if_pos hp, (add?_some (math_ok h)).1, Int.add_comm]
  · rw [if_neg hp] at h; rw [if_neg hp, ← Res.pure_ok h, Int.add_zero]

theorem applyFees_ok {b b' : Bank} {ch : Interest.StateChanges} (h : applyFees b ch = .ok b') :
    b' = { b with feeG := b.feeG + (if ch.groupFees > 0 then ch.groupFees else 0),
                  feeI := b.feeI + (if ch.insuranceFees > 0 then ch.insuranceFees else 0),
                  feeP := b.feeP + (if ch.protocolFees > 0 then ch.protocolFees else 0) } := by
  unfold applyFees at h
  obtain ⟨g, hg, h⟩ := Res.bind_ok h
  obtain ⟨i, hi, h⟩ := Res.bind_ok h
  obtain ⟨p, hp, h⟩ := Res.bind_ok h
  rw [← Res.pure_ok h, bumpFee_ok hg, bumpFee_ok hi, bumpFee_ok hp]

theorem accrue_cases {b b' : Bank} {ir : Interest.IrCalc} {now : Int} (h : accrueInterest b ir now = .ok b') :
    (now = b.lastUpdate ∧ b' = b) ∨
    (b.lastUpdate < now ∧ ∃ ta tl, assetAmount b b.sa = .ok ta ∧ liabAmount b b.sl = .ok tl ∧
      (((ta = 0 ∨ tl = 0) ∧ b' = { b with lastUpdate := now }) ∨
       (ta ≠ 0 ∧ tl ≠ 0 ∧ ∃ ch acc, Interest.accrualStateChanges (now - b.lastUpdate) ta tl ir b.asv b.lsv = .ok ch ∧
          applyFees { b with lastUpdate := now, cacheAccum := acc, cacheFor := min (now - b.lastUpdate) 4294967295,
                             asv := ch.newAsv, lsv := ch.newLsv } ch = .ok b'))) := by
  unfold accrueInterest at h
  dsimp only at h
  obtain ⟨hr, h⟩ := Res.of_ite_error h
  by_cases h0 : now - b.lastUpdate = 0
  · rw [if_pos h0] at h
    exact Or.inl ⟨by omega, (Res.pure_ok h).symm⟩
  · rw [if_neg h0] at h
    obtain ⟨ta, hta, h⟩ := Res.bind_ok h
    obtain ⟨tl, htl, h⟩ := Res.bind_ok h
    refine Or.inr ⟨by omega, ta, tl, hta, htl, ?_⟩
    by_cases hz : ta = 0 ∨ tl = 0
    · rw [if_pos hz] at h
      exact Or.inl ⟨hz, (Res.pure_ok h).symm⟩
    · rw [if_neg hz] at h
      unfold accrueCore at h
      obtain ⟨ch, hch, h⟩ := Res.bind_ok h
      obtain ⟨d, _, h⟩ := Res.bind_ok h
      obtain ⟨acc, _, h⟩ := Res.bind_ok h
      exact Or.inr ⟨fun e => hz (Or.inl e), fun e => hz (Or.inr e), ch, acc, stateChangesOrErr_ok hch, h⟩

theorem accrue_frame {b b' : Bank} {ir : Interest.IrCalc} {now : Int} (h : accrueInterest b ir now = .ok b') :
    b'.lastUpdate = now ∧
    b' = { b with asv := b'.asv, lsv := b'.lsv, feeI := b'.feeI, feeG := b'.feeG, feeP := b'.feeP,
                  lastUpdate := b'.lastUpdate, cacheAccum := b'.cacheAccum, cacheFor := b'.cacheFor } := by
  rcases accrue_cases h with ⟨e, rfl⟩ | ⟨_, ta, tl, _, _, ⟨_, rfl⟩ | ⟨_, _, ch, acc, _, hf⟩⟩
  · exact ⟨e.symm, rfl⟩
  · exact ⟨rfl, rfl⟩
  · rw [applyFees_ok hf]; exact ⟨rfl, rfl⟩

theorem socializeLoss_ok {b b' : Bank} {loss : Int} {kill : Bool} (h : socializeLoss b loss = .ok (b', kill)) :
    ∃ total, mul? b.sa b.asv = some total ∧
      ((total ≤ loss ∧ b' = { b with asv := 0 } ∧ kill = true) ∨
       (loss < total ∧ ∃ nsv, div? (total - loss) b.sa = some nsv ∧ b' = { b with asv := nsv } ∧ kill = (nsv == 0))) := by
  unfold socializeLoss at h
  obtain ⟨total, ht, h⟩ := Res.bind_ok h
  refine ⟨total, math_ok ht, ?_⟩
  by_cases hle : total ≤ loss
  · rw [if_pos hle] at h
    cases Res.pure_ok h
    exact Or.inl ⟨hle, rfl, rfl⟩
  · rw [if_neg hle] at h
    obtain ⟨diff, hd, h⟩ := Res.bind_ok h
    obtain ⟨nsv, hn, h⟩ := Res.bind_ok h
    cases Res.pure_ok h
    cases (Res.inRange_ok hd).1
    exact Or.inr ⟨Int.not_le.1 hle, nsv, math_ok hn, rfl, rfl⟩

theorem socializeLoss_frame {b b' : Bank} {loss : Int} {kill : Bool} (h : socializeLoss b loss = .ok (b', kill)) :
    b' = { b with asv := b'.asv } := by
  obtain ⟨_, _, ⟨_, e, _⟩ | ⟨_, _, _, e, _⟩⟩ := socializeLoss_ok h <;> rw [e]

theorem settleBankruptcy_ok {b : Bank} {x : Balance} {available now : Int} {st : BankruptcyOut}
    (h : settleBankruptcy b x available now = .ok st) :
    liabAmount b x.l = .ok st.badDebt ∧ ZERO_AMOUNT_THRESHOLD < st.badDebt ∧
    st.covered = min st.badDebt (available * ONE) ∧ st.socialized = max (st.badDebt - st.covered) 0 ∧
    st.coveredUp = -(-st.covered / ONE) ∧ 0 ≤ st.coveredUp ∧ st.coveredUp ≤ U64MAX ∧
    ∃ b1, socializeLoss b st.socialized = .ok (b1, st.kill) ∧
      increaseBalance b1 x now st.badDebt .repayOnly = .ok (st.bank, st.bal) := by
  unfold settleBankruptcy at h
  apply Res.bind_elim h; clear h; intro bad hb h
  apply Res.bind_elim h; clear h; intro _ hc h
  apply Res.bind_elim h; clear h; intro rest hr h
  apply Res.bind_elim h; clear h; intro up hu h
  apply Res.bind_elim h; clear h; intro cu hcu h
  apply Res.bind_elim h; clear h; rintro ⟨b1, kill⟩ hs h
  apply Res.bind_elim h; clear h; rintro ⟨b2, bal2⟩ hi h
  cases h
  cases (Res.inRange_ok hr).1
  obtain ⟨eu, u0, u1⟩ := toU64?_ceil (math_ok hu) (math_ok hcu)
  exact ⟨hb, by simpa using chk_ok hc, rfl, rfl, eu, u0, u1, b1, hs, hi⟩

theorem settleBankruptcy_moves {b : Bank} {x : Balance} {available now : Int} {st : BankruptcyOut}
    (h : settleBankruptcy b x available now = .ok st) :
    ∃ b1, socializeLoss b st.socialized = .ok (b1, st.kill) ∧
      increaseBalance b1 x now st.badDebt .repayOnly = .ok (st.bank, st.bal) :=
  (settleBankruptcy_ok h).2.2.2.2.2.2.2

end Mfi.Bank
