/- Lemmas about the transaction-shape model (Mfi/Model/Tx.lean): what each accepted check guarantees, what one successful
   instruction did to the flags (`Step`, `exec_ok`), and how `runAux` carries an invariant along a transaction. -/
import Mfi.Model.Tx
import Mfi.Lemmas.ResL

namespace Mfi.Tx
open Mfi Mfi.Gen

theorem guard_ok {b : Bool} {c : Nat} (h : guard b c = .ok ()) : b = true := (Res.of_ite_else_error h).1

theorem firstLoop_cons {d : Nat} {wl : List (Nat × Nat)} {enc : Bool} {ix : Ix} {rest : List Ix}
    (h : firstLoop d wl enc (ix :: rest) = .ok ()) :
    (isStartOf d ix = false ∧ firstLoop d wl enc rest = .ok () ∧
      (enc = false → ix.prog = COMPUTE ∨ ∃ x, ix.disc = some x ∧ wl.contains (ix.prog, x) = true)) ∨
    (isStartOf d ix = true ∧ enc = false ∧ firstLoop d wl true rest = .ok ()) := by
  unfold firstLoop at h
  by_cases hc : ix.prog = COMPUTE
  · rw [if_pos hc] at h
    exact .inl ⟨by simp [isStartOf, hc, COMPUTE, MRGN], h, fun _ => .inl hc⟩
  rw [if_neg hc] at h
  revert h
  cases hd : ix.disc with
  | none => intro h; cases h
  | some x =>
    dsimp only
    have hs : isStartOf d ix = true ↔ ix.prog = MRGN ∧ x = d := by simp [isStartOf, hd]
    cases enc with
    | true =>
      rw [if_pos rfl]
      intro h
      obtain ⟨hm, h⟩ := Res.of_ite_error h
      exact .inl ⟨Bool.eq_false_iff.mpr (mt hs.mp hm), h, fun h => by cases h⟩
    | false =>
      rw [if_neg (by decide)]
      intro h
      by_cases hm : ix.prog = MRGN ∧ x = d
      · rw [if_pos hm] at h; exact .inr ⟨hs.mpr hm, rfl, h⟩
      · rw [if_neg hm] at h
        obtain ⟨hw, h⟩ := Res.of_ite_else_error h
        exact .inl ⟨Bool.eq_false_iff.mpr (mt hs.mp hm), h, fun _ => .inr ⟨x, rfl, hw⟩⟩

theorem firstLoop_true {d : Nat} {wl : List (Nat × Nat)} :
    ∀ {l : List Ix}, firstLoop d wl true l = .ok () → ∀ y ∈ l, isStartOf d y = false
  | [], _, _, hy => by cases hy
  | ix :: rest, h, y, hy => by
    rcases firstLoop_cons h with ⟨h0, hr, _⟩ | ⟨_, he, _⟩
    · rcases List.mem_cons.mp hy with rfl | hy
      · exact h0
      · exact firstLoop_true hr y hy
    · cases he

theorem firstLoop_unique {d : Nat} {wl : List (Nat × Nat)} :
    ∀ {l : List Ix}, firstLoop d wl false l = .ok () →
      ∀ i j (hi : i < l.length) (hj : j < l.length), isStartOf d l[i] = true → isStartOf d l[j] = true → i = j
  | [], _, i, _, hi, _, _, _ => by cases hi
  | ix :: rest, h, i, j, hi, hj, si, sj => by
    rcases firstLoop_cons h with ⟨h0, hr, _⟩ | ⟨_, _, hr⟩
    · -- `ix` is not the start: both indices point into `rest`
      cases i with
      | zero => rw [List.getElem_cons_zero, h0] at si; cases si
      | succ i =>
        cases j with
        | zero => rw [List.getElem_cons_zero, h0] at sj; cases sj
        | succ j => rw [firstLoop_unique hr i j (Nat.lt_of_succ_lt_succ hi) (Nat.lt_of_succ_lt_succ hj) si sj]
    · -- `ix` is the start: nothing in `rest` is
      have hrest := firstLoop_true hr
      cases i with
      | zero =>
        cases j with
        | zero => rfl
        | succ j => rw [List.getElem_cons_succ, hrest _ (List.getElem_mem _)] at sj; cases sj
      | succ i => rw [List.getElem_cons_succ, hrest _ (List.getElem_mem _)] at si; cases si

theorem firstLoop_prefix {d : Nat} {wl : List (Nat × Nat)} {l : List Ix} (h : firstLoop d wl false l = .ok ()) :
    ∃ k, ∃ hk : k < l.length, isStartOf d l[k] = true ∧
      ∀ j (hj : j < k), (l[j]'(Nat.lt_trans hj hk)).prog = COMPUTE ∨
        ∃ x, (l[j]'(Nat.lt_trans hj hk)).disc = some x ∧ wl.contains ((l[j]'(Nat.lt_trans hj hk)).prog, x) = true := by
  induction l with
  | nil => cases h
  | cons ix rest ih =>
    rcases firstLoop_cons h with ⟨_, hr, hw⟩ | ⟨h1, _, _⟩
    · obtain ⟨k, hk, hs, hp⟩ := ih hr
      refine ⟨k + 1, Nat.succ_lt_succ hk, hs, fun j hj => ?_⟩
      cases j with
      | zero => exact hw rfl
      | succ j => exact hp j (Nat.lt_of_succ_lt_succ hj)
    · exact ⟨0, Nat.zero_lt_succ _, h1, fun j hj => absurd hj (Nat.not_lt_zero j)⟩

theorem exclusive_all {al : List Nat} :
    ∀ {l : List Ix}, exclusiveLoop al l = .ok () → ∀ y ∈ l, y.prog = MRGN → ∃ x, y.disc = some x ∧ al.contains x = true
  | [], _, _, hy, _ => by cases hy
  | ix :: rest, h, y, hy, hp => by
    unfold exclusiveLoop at h
    by_cases hm : ix.prog = MRGN
    · rw [if_pos hm] at h
      revert h
      cases hd : ix.disc with
      | none => intro h; cases h
      | some x =>
        dsimp only
        intro h
        by_cases hc : al.contains x = true
        · rw [if_pos hc] at h
          rcases List.mem_cons.mp hy with rfl | hy
          · exact ⟨x, hd, hc⟩
          · exact exclusive_all h y hy hp
        · rw [if_neg hc] at h; cases h
    · rw [if_neg hm] at h
      rcases List.mem_cons.mp hy with rfl | hy
      · exact absurd hp hm
      · exact exclusive_all h y hy hp

theorem programs_all : ∀ {l : List Ix}, programsAllowed l = .ok () → ∀ y ∈ l, TxL.allowedPrograms.contains y.prog = true
  | [], _, _, hy => by cases hy
  | ix :: rest, h, y, hy => by
    unfold programsAllowed at h
    by_cases hc : TxL.allowedPrograms.contains ix.prog = true
    · rw [if_pos hc] at h
      rcases List.mem_cons.mp hy with rfl | hy
      · exact hc
      · exact programs_all h y hy
    · rw [if_neg hc] at h; cases h

theorem last_spec {l : List Ix} {e : Nat} (h : validateLast l e = .ok ()) :
    ∃ x, l.getLast? = some x ∧ x.prog = MRGN ∧ x.disc = some e := by
  unfold validateLast at h
  revert h
  cases hl : l.getLast? with
  | none => intro h; cases h
  | some x =>
    dsimp only
    cases hd : x.disc with
    | none => intro h; cases h
    | some y =>
      intro h
      obtain ⟨hp, h⟩ := Res.of_ite_not_error h
      obtain ⟨hy, _⟩ := Res.of_ite_not_error h
      exact ⟨x, rfl, hp, hy ▸ hd⟩

theorem upd_same (st : State) (a : Nat) (f : Flags) : upd st a f a = f := if_pos rfl
theorem upd_ne (st : State) {a b : Nat} (f : Flags) (h : b ≠ a) : upd st a f b = st b := if_neg h

/-- a start instruction for account `a` at index `i` that passed `validate_instructions` -/
def Started (ixs : List Ix) (i a : Nat) : Prop :=
  ∃ ix, ixs[i]? = some ix ∧ ix.prog = MRGN ∧ ix.acct0 = some a ∧
    ((ix.disc = some D_START_LIQ ∧ validateInstructions ixs i 1 D_START_LIQ D_END_LIQ = .ok ()) ∨
     (ix.disc = some D_START_DELEV ∧ validateInstructions ixs i 1 D_START_DELEV D_END_DELEV = .ok ()))

/-- the two kinds of start in one form -/
theorem Started.kind {ixs : List Ix} {i a : Nat} (h : Started ixs i a) :
    ∃ ix s e, ixs[i]? = some ix ∧ ix.prog = MRGN ∧ ix.acct0 = some a ∧ ix.disc = some s ∧
      ((s = D_START_LIQ ∧ e = D_END_LIQ) ∨ (s = D_START_DELEV ∧ e = D_END_DELEV)) ∧
      validateInstructions ixs i 1 s e = .ok () := by
  obtain ⟨ix, hx, hp, ha, ⟨hd, hv⟩ | ⟨hd, hv⟩⟩ := h
  · exact ⟨ix, _, _, hx, hp, ha, hd, .inl ⟨rfl, rfl⟩, hv⟩
  · exact ⟨ix, _, _, hx, hp, ha, hd, .inr ⟨rfl, rfl⟩, hv⟩

/-- instruction `e` of the transaction is this program's end_flashloan for account `b` -/
def EndAt (ixs : List Ix) (e b : Nat) : Prop :=
  ∃ x, ixs[e]? = some x ∧ x.prog = MRGN ∧ x.disc = some D_END_FLASH ∧ x.acct0 = some b

theorem canStart_ok {ixs : List Ix} {cur stack e key : Nat} {f : Flags}
    (h : canStartFlashloan ixs cur stack e key f = .ok ()) :
    stack = 1 ∧ cur < e ∧ EndAt ixs e key ∧ (∃ c, ixs[cur]? = some c ∧ c.prog = MRGN) ∧
    f.disabled = false ∧ f.flash = false ∧ f.recv = false ∧ f.frozen = false := by
  unfold canStartFlashloan at h
  revert h
  cases hc : ixs[cur]? with
  | none => intro h; cases h
  | some c =>
    intro h
    obtain ⟨hp, h⟩ := Res.of_ite_not_error h
    obtain ⟨hlt, h⟩ := Res.of_ite_not_error h
    obtain ⟨hst, h⟩ := Res.of_ite_not_error h
    revert h
    cases he : ixs[e]? with
    | none => intro h; cases h
    | some x =>
      dsimp only
      cases hd : x.disc with
      | none => intro h; cases h
      | some d =>
        intro h
        obtain ⟨hde, h⟩ := Res.of_ite_not_error h
        obtain ⟨hxp, h⟩ := Res.of_ite_not_error h
        revert h
        cases ha : x.acct0 with
        | none => intro h; cases h
        | some k =>
          intro h
          obtain ⟨hk, h⟩ := Res.of_ite_not_error h
          obtain ⟨h1, h⟩ := Res.of_ite_error h
          obtain ⟨h2, h⟩ := Res.of_ite_error h
          obtain ⟨h3, h⟩ := Res.of_ite_error h
          obtain ⟨h4, _⟩ := Res.of_ite_error h
          subst hde hk
          exact ⟨hst, hlt, ⟨x, he, hxp, hd, ha⟩, ⟨c, rfl, hp⟩, Bool.of_not_eq_true h1, Bool.of_not_eq_true h2,
            Bool.of_not_eq_true h3, Bool.of_not_eq_true h4⟩

/-- what a successful instruction `ix` at index `i` did: one case per kind of instruction, with the guards it passed and the
    state it left. Everything about `exec` is proved by cases on this. -/
inductive Step (ixs : List Ix) (orc : Nat → Bool) (i : Nat) (ix : Ix) (st : State) : State → Prop
  | foreign : ix.prog ≠ MRGN → Step ixs orc i ix st st
  | startRecv {d a : Nat} : ix.prog = MRGN → ix.disc = some d → ix.acct0 = some a → d = D_START_LIQ ∨ d = D_START_DELEV →
      (st a).recv = false → (st a).flash = false → (st a).disabled = false → orc i = true →
      validateInstructions ixs i 1 d (if d = D_START_LIQ then D_END_LIQ else D_END_DELEV) = .ok () →
      Step ixs orc i ix st (upd st a { st a with recv := true })
  | endRecv {d a : Nat} : ix.prog = MRGN → ix.disc = some d → ix.acct0 = some a → d = D_END_LIQ ∨ d = D_END_DELEV →
      (st a).recv = true → (st a).flash = false → (st a).disabled = false → orc i = true →
      Step ixs orc i ix st (upd st a { st a with recv := false })
  | startFlash {a : Nat} : ix.prog = MRGN → ix.disc = some D_START_FLASH → ix.acct0 = some a →
      canStartFlashloan ixs i 1 ix.arg a (st a) = .ok () → orc i = true →
      Step ixs orc i ix st (upd st a { st a with flash := true })
  | endFlash {a : Nat} : ix.prog = MRGN → ix.disc = some D_END_FLASH → ix.acct0 = some a →
      (st a).disabled = false → (st a).recv = false → (st a).frozen = false → orc i = true →
      Step ixs orc i ix st (upd st a { st a with flash := false })
  | transfer {a : Nat} : ix.prog = MRGN → ix.disc = some D_TRANSFER → ix.acct0 = some a →
      (st a).flash = false → (st a).recv = false → orc i = true →
      Step ixs orc i ix st (upd (upd st ix.arg (st a)) a { st a with disabled := true })
  | other {d : Nat} : ix.prog = MRGN → ix.disc = some d → isBracketDisc d = false → orc i = true → ix.acct0 = none →
      Step ixs orc i ix st st
  | otherOn {d a : Nat} (dis frz : Bool) : ix.prog = MRGN → ix.disc = some d → isBracketDisc d = false → orc i = true →
      ix.acct0 = some a →
      Step ixs orc i ix st (upd st a { st a with disabled := (st a).disabled || dis, frozen := (st a).frozen != frz })

theorem execBracket_ok {ixs : List Ix} {orc : Nat → Bool} {i : Nat} {ix : Ix} {st st' : State} {d a : Nat}
    (hp : ix.prog = MRGN) (hd : ix.disc = some d) (ha : ix.acct0 = some a) (hb : isBracketDisc d = true)
    (h : execBracket ixs orc i ix st d a = .ok st') : Step ixs orc i ix st st' := by
  unfold execBracket at h
  by_cases h1 : d = D_START_LIQ ∨ d = D_START_DELEV
  · rw [if_pos h1] at h
    obtain ⟨g1, h⟩ := Res.guard_bind_ok h
    obtain ⟨g2, h⟩ := Res.guard_bind_ok h
    obtain ⟨_, hv, h⟩ := Res.bind_ok h
    cases h
    simp only [Bool.and_eq_true, Bool.not_eq_true'] at g1
    exact .startRecv hp hd ha h1 g1.1.1 g1.1.2 g1.2 g2 hv
  rw [if_neg h1] at h
  by_cases h2 : d = D_END_LIQ ∨ d = D_END_DELEV
  · rw [if_pos h2] at h
    obtain ⟨g1, h⟩ := Res.guard_bind_ok h
    obtain ⟨g2, h⟩ := Res.guard_bind_ok h
    cases h
    simp only [Bool.and_eq_true, Bool.not_eq_true'] at g1
    exact .endRecv hp hd ha h2 g1.1.1 g1.1.2 g1.2 g2
  rw [if_neg h2] at h
  by_cases h3 : d = D_START_FLASH
  · rw [if_pos h3] at h
    obtain ⟨_, hc, h⟩ := Res.bind_ok h
    obtain ⟨g2, h⟩ := Res.guard_bind_ok h
    cases h
    exact .startFlash hp (h3 ▸ hd) ha hc g2
  rw [if_neg h3] at h
  by_cases h4 : d = D_END_FLASH
  · rw [if_pos h4] at h
    obtain ⟨g1, h⟩ := Res.guard_bind_ok h
    obtain ⟨g2, h⟩ := Res.guard_bind_ok h
    obtain ⟨g3, h⟩ := Res.guard_bind_ok h
    obtain ⟨g4, h⟩ := Res.guard_bind_ok h
    cases h
    simp only [Bool.not_eq_true'] at g1 g2 g3
    exact .endFlash hp (h4 ▸ hd) ha g1 g2 g3 g4
  rw [if_neg h4] at h
  obtain ⟨g1, h⟩ := Res.guard_bind_ok h
  obtain ⟨g2, h⟩ := Res.guard_bind_ok h
  obtain ⟨g3, h⟩ := Res.guard_bind_ok h
  cases h
  simp only [Bool.not_eq_true'] at g1 g2
  -- the seventh and last bracket discriminator
  have h5 : d = D_TRANSFER := by
    simpa only [isBracketDisc, Bool.or_eq_true, beq_iff_eq, not_or.mp h1, not_or.mp h2, h3, h4, false_or, or_false] using hb
  exact .transfer hp (h5 ▸ hd) ha g1 g2 g3

theorem exec_ok {ixs : List Ix} {orc : Nat → Bool} {i : Nat} {ix : Ix} {st st' : State}
    (h : exec ixs orc i ix st = .ok st') : Step ixs orc i ix st st' := by
  unfold exec at h
  by_cases hp : ix.prog = MRGN
  · rw [if_neg (not_not_intro hp)] at h
    revert h
    cases hd : ix.disc with
    | none => intro h; cases h
    | some d =>
      dsimp only
      cases hb : isBracketDisc d with
      | true =>
        cases ha : ix.acct0 with
        | none => intro h; cases h
        | some a => exact execBracket_ok hp hd ha hb
      | false =>
        cases ho : orc i with
        | false => intro h; cases h
        | true =>
          cases ha : ix.acct0 with
          | none => intro h; cases h; exact .other hp hd hb ho ha
          | some a => intro h; cases h; exact .otherOn _ _ hp hd hb ho ha
  · rw [if_pos hp] at h
    cases h
    exact .foreign hp

/-- rewriting one account's flags without touching the field `π` raises `π` for no account -/
theorem upd_keep (π : Flags → Bool) {st : State} {a b : Nat} {f : Flags} (h : π (upd st a f b) = true)
    (hf : π f = π (st a)) : π (st b) = true := by
  by_cases hba : b = a
  · subst hba; rwa [upd_same, hf] at h
  · rwa [upd_ne _ _ hba] at h

/-- `transfer_to_new_account`: the new account gets the old one's flags, so a flag the old one did not have is raised for nobody -/
theorem upd_transfer (π : Flags → Bool) {st : State} {a n b : Nat} {f : Flags}
    (h : π (upd (upd st n (st a)) a f b) = true) (hf : π f = π (st a)) (ha : π (st a) = false) : π (st b) = true := by
  by_cases hba : b = a
  · subst hba; rw [upd_same, hf, ha] at h; cases h
  · rw [upd_ne _ _ hba] at h
    by_cases hbn : b = n
    · subst hbn; rw [upd_same, ha] at h; cases h
    · rwa [upd_ne _ _ hbn] at h

theorem exec_recv {ixs : List Ix} {orc : Nat → Bool} {k : Nat} {ix : Ix} {st st' : State}
    (hk : ixs[k]? = some ix) (h : exec ixs orc k ix st = .ok st') (b : Nat) (hb : (st' b).recv = true) :
    (st b).recv = true ∨ Started ixs k b := by
  cases exec_ok h with
  | foreign => exact .inl hb
  | other => exact .inl hb
  | startFlash | endFlash | otherOn => exact .inl (upd_keep (·.recv) hb rfl)
  | @startRecv d a hp hd ha hs _ _ _ _ hv =>
    by_cases hba : b = a
    · subst hba
      refine .inr ⟨ix, hk, hp, ha, ?_⟩
      rcases hs with rfl | rfl
      · exact .inl ⟨hd, hv⟩
      · exact .inr ⟨hd, hv⟩
    · rw [upd_ne _ _ hba] at hb; exact .inl hb
  | @endRecv d a =>
    by_cases hba : b = a
    · subst hba; rw [upd_same] at hb; cases hb
    · rw [upd_ne _ _ hba] at hb; exact .inl hb
  | transfer _ _ _ _ hr => exact .inl (upd_transfer (·.recv) hb rfl hr)

theorem exec_end {ixs : List Ix} {orc : Nat → Bool} {k : Nat} {ix : Ix} {st st' : State} {e : Nat}
    (hp : ix.prog = MRGN) (hd : ix.disc = some e) (he : e = D_END_LIQ ∨ e = D_END_DELEV)
    (h : exec ixs orc k ix st = .ok st') :
    ∃ b, ix.acct0 = some b ∧ (st b).recv = true ∧ (st' b).recv = false ∧ ∀ a, a ≠ b → st' a = st a := by
  have hde : ∀ {d : Nat}, ix.disc = some d → d = D_END_LIQ ∨ d = D_END_DELEV :=
    fun hd' => Option.some.inj (hd.symm.trans hd') ▸ he
  cases exec_ok h with
  | foreign hn => exact absurd hp hn
  | @endRecv d b _ _ ha _ hr => exact ⟨b, ha, hr, by rw [upd_same], fun a hab => upd_ne _ _ hab⟩
  | startRecv _ hd' _ hs => rcases hde hd' with rfl | rfl <;> exact absurd hs (by decide)
  | startFlash _ hd' | endFlash _ hd' | transfer _ hd' => exact absurd (hde hd') (by decide)
  | other _ hd' hnb | otherOn _ _ _ hd' hnb => rcases hde hd' with rfl | rfl <;> exact absurd hnb (by decide)

theorem exec_flash {ixs : List Ix} {orc : Nat → Bool} {k : Nat} {ix : Ix} {st st' : State}
    (h : exec ixs orc k ix st = .ok st') (b : Nat) (hb : (st' b).flash = true) :
    ((st b).flash = true ∧ ¬ (ix.prog = MRGN ∧ ix.disc = some D_END_FLASH ∧ ix.acct0 = some b)) ∨
    (∃ e, k < e ∧ EndAt ixs e b) := by
  -- an instruction whose discriminator is not END_FLASH is not `b`'s end
  have notEnd : ∀ {d : Nat}, ix.disc = some d → d ≠ D_END_FLASH →
      ¬ (ix.prog = MRGN ∧ ix.disc = some D_END_FLASH ∧ ix.acct0 = some b) :=
    fun hd hne hh => hne (Option.some.inj (hd.symm.trans hh.2.1))
  cases exec_ok h with
  | foreign hp => exact .inl ⟨hb, fun hh => hp hh.1⟩
  | other _ hd hnb => exact .inl ⟨hb, notEnd hd (by rintro rfl; cases hnb)⟩
  | otherOn _ _ _ hd hnb => exact .inl ⟨upd_keep (·.flash) hb rfl, notEnd hd (by rintro rfl; cases hnb)⟩
  | startRecv _ hd _ hs | endRecv _ hd _ hs =>
    exact .inl ⟨upd_keep (·.flash) hb rfl, notEnd hd (by rcases hs with rfl | rfl <;> decide)⟩
  | @startFlash a _ hd _ hc =>
    by_cases hba : b = a
    · subst hba; exact .inr ⟨ix.arg, (canStart_ok hc).2.1, (canStart_ok hc).2.2.1⟩
    · rw [upd_ne _ _ hba] at hb; exact .inl ⟨hb, notEnd hd (by decide)⟩
  | @endFlash a _ _ ha =>
    by_cases hba : b = a
    · subst hba; rw [upd_same] at hb; cases hb
    · rw [upd_ne _ _ hba] at hb; exact .inl ⟨hb, fun hh => hba (Option.some.inj (hh.2.2.symm.trans ha))⟩
  | transfer _ hd _ hf => exact .inl ⟨upd_transfer (·.flash) hb rfl hf, notEnd hd (by decide)⟩

theorem runAux_append {ixs : List Ix} {orc : Nat → Bool} (l1 l2 : List Ix) (k : Nat) (st : State) :
    runAux ixs orc (l1 ++ l2) k st = (runAux ixs orc l1 k st >>= fun s => runAux ixs orc l2 (k + l1.length) s) := by
  induction l1 generalizing k st with
  | nil => rfl
  | cons y rest ih =>
    simp only [List.cons_append, runAux, List.length_cons]
    cases exec ixs orc k y st with
    | error e => rfl
    | ok st1 =>
      show runAux ixs orc (rest ++ l2) (k + 1) st1 =
        (runAux ixs orc rest (k + 1) st1 >>= fun s => runAux ixs orc l2 (k + (rest.length + 1)) s)
      rw [ih, Nat.add_assoc, Nat.add_comm 1]

theorem runAux_cons_ok {ixs : List Ix} {orc : Nat → Bool} {ix : Ix} {rest : List Ix} {k : Nat} {st st' : State}
    (h : runAux ixs orc (ix :: rest) k st = .ok st') :
    ∃ st1, exec ixs orc k ix st = .ok st1 ∧ runAux ixs orc rest (k + 1) st1 = .ok st' := by
  unfold runAux at h
  cases he : exec ixs orc k ix st with
  | error e => rw [he] at h; cases h
  | ok st1 => rw [he] at h; exact ⟨st1, rfl, h⟩

theorem getElem?_mid {pre suf post : List Ix} {ix : Ix} {ixs : List Ix} {k : Nat}
    (h : ixs = pre ++ (ix :: suf) ++ post) (hk : pre.length = k) : ixs[k]? = some ix := by
  subst h; subst hk
  simp

/-- `I k st` (of the index of the next instruction and the flags) is carried along every stretch `suf` of a run -/
def Carried (ixs : List Ix) (orc : Nat → Bool) (I : Nat → State → Prop) : Prop :=
  ∀ (suf pre post : List Ix) (k : Nat) (st st' : State), ixs = pre ++ suf ++ post → pre.length = k →
    runAux ixs orc suf k st = .ok st' → I k st → I (k + suf.length) st'

theorem runAux_ind {ixs : List Ix} {orc : Nat → Bool} (I : Nat → State → Prop)
    (hstep : ∀ k ix st st', ixs[k]? = some ix → exec ixs orc k ix st = .ok st' → I k st → I (k + 1) st') :
    Carried ixs orc I
  | [], _, _, _, _, _, _, _, h, hi => by cases h; exact hi
  | ix :: rest, pre, post, k, st, st', hsplit, hk, h, hi => by
    obtain ⟨st1, he, h⟩ := runAux_cons_ok h
    have := runAux_ind I hstep rest (pre ++ [ix]) post (k + 1) st1 st' (by rw [hsplit]; simp) (by simp [hk]) h
      (hstep k ix st st1 (getElem?_mid hsplit hk) he hi)
    rwa [List.length_cons, Nat.add_comm rest.length, ← Nat.add_assoc]

theorem run_ind {ixs : List Ix} {orc : Nat → Bool} {I : Nat → State → Prop} (hI : Carried ixs orc I)
    {st st' : State} (h : run ixs orc st = .ok st') (h0 : I 0 st) : I ixs.length st' := by
  simpa using hI ixs [] [] 0 st st' (by simp) rfl h h0

theorem run_at {ixs : List Ix} {orc : Nat → Bool} {I : Nat → State → Prop} (hI : Carried ixs orc I)
    {st st' : State} {k : Nat} {x : Ix} (h : run ixs orc st = .ok st') (h0 : I 0 st) (hk : ixs[k]? = some x) :
    ∃ s1 s2, I k s1 ∧ exec ixs orc k x s1 = .ok s2 ∧ runAux ixs orc (ixs.drop (k + 1)) (k + 1) s2 = .ok st' := by
  obtain ⟨hlt, rfl⟩ := List.getElem?_eq_some_iff.mp hk
  have hsplit : ixs = ixs.take k ++ (ixs[k] :: ixs.drop (k + 1)) := by
    rw [← List.drop_eq_getElem_cons hlt, List.take_append_drop]
  have hlen : 0 + (ixs.take k).length = k := by rw [Nat.zero_add, List.length_take, Nat.min_eq_left (Nat.le_of_lt hlt)]
  have h' : runAux ixs orc (ixs.take k ++ (ixs[k] :: ixs.drop (k + 1))) 0 st = .ok st' := by rw [← hsplit]; exact h
  rw [runAux_append] at h'
  obtain ⟨s1, h1, h2⟩ := Res.bind_ok h'
  rw [hlen] at h2
  obtain ⟨s2, he, h3⟩ := runAux_cons_ok h2
  exact ⟨s1, s2, hlen ▸ hI (ixs.take k) [] _ 0 st s1 hsplit rfl h1 h0, he, h3⟩

end Mfi.Tx
