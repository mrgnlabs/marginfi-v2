/- What the definitions of Mfi/Model/Risk.lean do on success; the property files and the world-level lemmas reason from
   these and do not unfold the definitions again. -/
import Mfi.Model.Risk
import Mfi.Lemmas.FxL
import Mfi.Lemmas.ResL

namespace Mfi.Risk
open Mfi Mfi.Fx Mfi.Gen

theorem math_ok {α : Type} {o : Option α} {a : α} (h : math o = .ok a) : o = some a := by
  cases o with
  | none => cases h
  | some x => rw [Res.pure_ok h]

theorem subP_ok {a b r : Int} (h : subP a b = .ok r) : r = a - b ∧ MIN ≤ a - b ∧ a - b ≤ MAX := Res.inRange_ok h
theorem addP_ok {a b r : Int} (h : addP a b = .ok r) : r = a + b ∧ MIN ≤ a + b ∧ a + b ≤ MAX := Res.inRange_ok h
theorem subOp_ok {a b r : Int} (h : subOp a b = .ok r) : r = a - b ∧ MIN ≤ a - b ∧ a - b ≤ MAX := Res.inRange_ok h

theorem exp10fx_ok {d e : Int} (h : exp10fx d = .ok e) : 0 < e := by
  have h := (Res.of_ite_else_error h).2
  revert h
  cases hg : POW10FX[d.toNat]? with
  | none => intro h; cases h
  | some x => intro h; cases Res.pure_ok h; exact POW10FX_pos hg

theorem calcValue_ok {a p d w v : Int} (h : calcValue a p d (some w) = .ok v) (ha : a ≠ 0) :
    ∃ s x y, exp10fx d = .ok s ∧ 0 < s ∧ mul? a w = some x ∧ mul? x p = some y ∧ div? y s = some v := by
  unfold calcValue at h
  rw [if_neg ha] at h
  obtain ⟨s, hs, h⟩ := Res.bind_ok h
  obtain ⟨x, hx, h⟩ := Res.bind_ok h
  obtain ⟨y, hy, h⟩ := Res.bind_ok h
  refine ⟨s, x, y, hs, exp10fx_ok hs, ?_, math_ok hy, math_ok h⟩
  revert hx
  cases mul? a w with
  | none => intro hx; cases hx
  | some z => intro hx; rw [Res.pure_ok hx]

theorem calcAmount_ok {v p d r : Int} (h : calcAmount v p d = .ok r) :
    ∃ s x, exp10fx d = .ok s ∧ 0 < s ∧ mul? v s = some x ∧ div? x p = some r := by
  unfold calcAmount at h
  obtain ⟨s, hs, h⟩ := Res.bind_ok h
  obtain ⟨x, hx, h⟩ := Res.bind_ok h
  exact ⟨s, x, hs, exp10fx_ok hs, math_ok hx, math_ok h⟩

theorem applyBias_low {p ci q : Int} (h : applyBias p ci .low = .ok q) : q = p - ci := (sub?_some (math_ok h)).1
theorem applyBias_high {p ci q : Int} (h : applyBias p ci .high = .ok q) : q = p + ci := (add?_some (math_ok h)).1

theorem pythConf_ok {p : Pyth} {useEma : Bool} {mc ci : Int} (h : pythConf p useEma mc = .ok ci) :
    ∃ c price, pythComponents (if useEma then p.emaPrice else p.price) p.expo = .ok price ∧ confGate c price mc = .ok ci := by
  unfold pythConf at h
  obtain ⟨c0, _, h⟩ := Res.bind_ok h
  obtain ⟨c, _, h⟩ := Res.bind_ok h
  obtain ⟨price, hp, h⟩ := Res.bind_ok h
  exact ⟨c, price, hp, h⟩

theorem swbConf_ok {v sd mc ci : Int} (h : swbConf v sd mc = .ok ci) :
    ∃ c price, swbPrice v = .ok price ∧ confGate c price mc = .ok ci := by
  unfold swbConf at h
  obtain ⟨e, _, h⟩ := Res.bind_ok h
  obtain ⟨s, _, h⟩ := Res.bind_ok h
  obtain ⟨a, _, h⟩ := Res.bind_ok h
  obtain ⟨c, _, h⟩ := Res.bind_ok h
  obtain ⟨price, hp, h⟩ := Res.bind_ok h
  exact ⟨c, price, hp, h⟩

/-- the confidence that biases a price has passed the gate on the unbiased price of the same type -/
theorem priceOfType_biased_ok {f : Feed} {t : PType} {b : Bias} {mc q : Int} (hf : ∀ x, f ≠ .fixed x)
    (h : priceOfType f t (some b) mc = .ok q) :
    ∃ p c ci, priceOfType f t none mc = .ok p ∧ confGate c p mc = .ok ci ∧ applyBias p ci b = .ok q := by
  cases f with
  | fixed x => exact absurd rfl (hf x)
  | failed c => cases h
  | pyth px =>
    unfold priceOfType at h
    obtain ⟨p, hp, h⟩ := Res.bind_ok h
    obtain ⟨ci, hci, h⟩ := Res.bind_ok h
    obtain ⟨c, p', hp', hg⟩ := pythConf_ok hci
    simp only [decide_eq_true_eq] at hp'
    rw [hp] at hp'
    cases Res.pure_ok hp'
    exact ⟨p, c, ci, by simp only [priceOfType, hp]; rfl, hg, h⟩
  | swb v sd =>
    unfold priceOfType at h
    obtain ⟨p, hp, h⟩ := Res.bind_ok h
    obtain ⟨ci, hci, h⟩ := Res.bind_ok h
    obtain ⟨c, p', hp', hg⟩ := swbConf_ok hci
    rw [hp] at hp'
    cases Res.pure_ok hp'
    exact ⟨p, c, ci, by simp only [priceOfType, hp]; rfl, hg, h⟩

theorem findWithTag_some {em : List Entry} {tag : Nat} {e : Entry} (h : findWithTag em tag = some e) : e ∈ em ∧ e.tag ≠ 0 := by
  unfold findWithTag at h
  by_cases h0 : tag = 0
  · rw [if_pos h0] at h; cases h
  · rw [if_neg h0] at h
    have ht := List.find?_some h
    exact ⟨List.mem_of_find?_eq_some h, fun he => h0 ((beq_iff_eq.mp ht).symm.trans he)⟩

theorem initDiscount_some_ok {b : BankR} {price d : Int} (h : initDiscount b price = .ok (some d)) :
    ∃ ta total, assetAmount b b.sa = .ok ta ∧ calcValue ta price b.decimals none = .ok total ∧ ofInt b.initLimit < total ∧
      div? (ofInt b.initLimit) total = some d := by
  unfold initDiscount at h
  by_cases h0 : b.initLimit = TOTAL_ASSET_VALUE_INIT_LIMIT_INACTIVE
  · rw [if_pos h0] at h; cases Res.pure_ok h
  rw [if_neg h0] at h
  obtain ⟨ta, hta, h⟩ := Res.bind_ok h
  obtain ⟨total, htot, h⟩ := Res.bind_ok h
  dsimp only at h
  by_cases hgt : total > ofInt b.initLimit
  · rw [if_pos hgt] at h
    obtain ⟨q, hq, e⟩ := Res.map_ok h
    cases e
    exact ⟨ta, total, hta, htot, hgt, math_ok hq⟩
  · rw [if_neg hgt] at h; cases Res.pure_ok h

theorem assetWeight_ok {b : BankR} {r : Req} {em : List Entry} {lower w : Int} (h : assetWeight b r em lower = .ok w) :
    w = assetWeight0 b r em ∨
    (r = .initial ∧ ∃ d, initDiscount b lower = .ok (some d) ∧ mul? (assetWeight0 b r em) d = some w) := by
  unfold assetWeight at h
  by_cases hr : r = .initial
  · rw [if_pos hr] at h
    obtain ⟨d, hd, h⟩ := Res.bind_ok h
    cases d with
    | none => exact Or.inl (Res.pure_ok h).symm
    | some d => exact Or.inr ⟨hr, d, hd, math_ok h⟩
  · rw [if_neg hr] at h; exact Or.inl (Res.pure_ok h).symm

/-- the zero cases: isolated tier; at the initial requirement a reduce-only bank or a failed oracle. (The debt side,
    `weightedLiab`, has no cases: `Props.C04.debt_valued_high`.) -/
theorem weightedAsset_ok {p : Pos} {r : Req} {em : List Entry} {v pr : Int} {c : Nat} (h : weightedAsset p r em = .ok (v, pr, c)) :
    (v = 0 ∧ pr = 0 ∧ (p.bank.tier = .isolated ∨ r = .initial)) ∨
    (c = 0 ∧ p.bank.tier = .collateral ∧ ¬ (p.bank.reduceOnly = true ∧ r = .initial) ∧ ∃ w amt,
      priceOfType p.feed r.ptype (some .low) p.bank.maxConf = .ok pr ∧ assetWeight p.bank r em pr = .ok w ∧
      assetAmount p.bank p.a = .ok amt ∧ calcValue amt pr p.bank.decimals (some w) = .ok v) := by
  unfold weightedAsset at h
  dsimp only at h
  cases ht : p.bank.tier <;> rw [ht] at h <;> dsimp only at h
  case isolated => cases Res.pure_ok h; exact Or.inl ⟨rfl, rfl, Or.inl rfl⟩
  by_cases hro : p.bank.reduceOnly = true ∧ r = .initial
  · rw [if_pos hro] at h; cases Res.pure_ok h; exact Or.inl ⟨rfl, rfl, Or.inr hro.2⟩
  rw [if_neg hro] at h
  cases hf : p.feed <;> rw [hf] at h
  case failed c' =>
    cases r
    · cases Res.pure_ok h; exact Or.inl ⟨rfl, rfl, Or.inr rfl⟩
    · cases h
    · cases h
  all_goals
    right
    dsimp only at h
    obtain ⟨lo, hlo, h⟩ := Res.bind_ok h
    obtain ⟨w, hw, h⟩ := Res.bind_ok h
    obtain ⟨amt, hamt, h⟩ := Res.bind_ok h
    obtain ⟨vv, hcv, h⟩ := Res.bind_ok h
    cases Res.pure_ok h
    exact ⟨rfl, rfl, hro, w, amt, hlo, hw, hamt, hcv⟩

/-- which side a position counts on does not depend on the requirement -/
theorem weightedValue_cases (p : Pos) (em : List Entry) :
    (∀ r, weightedValue p r em = .ok (0, 0, 0, 0)) ∨
    (∀ r, weightedValue p r em = weightedAsset p r em >>= fun x => .ok (x.1, 0, x.2.1, x.2.2)) ∨
    (∀ r, weightedValue p r em = weightedLiab p r >>= fun x => .ok (0, x.1, x.2, 0)) ∨
    (∃ f, ∀ r, weightedValue p r em = .error f) := by
  unfold weightedValue
  cases getSide p with
  | error f => exact .inr (.inr (.inr ⟨f, fun _ => rfl⟩))
  | ok s =>
    cases s with
    | none => exact .inl fun _ => rfl
    | some sd =>
      cases sd with
      | assets => exact .inr (.inl fun _ => rfl)
      | liabs => exact .inr (.inr (.inl fun _ => rfl))

theorem liquidationAmounts_ok {n pa pl da dl : Int} {r : LiqAmounts} (h : liquidationAmounts n pa pl da dl = .ok r) :
    ∃ v1 v2, calcValue (ofInt n) pa da (some (ONE - LIQUIDATION_LIQUIDATOR_FEE)) = .ok v1 ∧ calcAmount v1 pl dl = .ok r.liquidator ∧
      calcValue (ofInt n) pa da (some (ONE - (LIQUIDATION_INSURANCE_FEE + LIQUIDATION_LIQUIDATOR_FEE))) = .ok v2 ∧
      calcAmount v2 pl dl = .ok r.final ∧
      r.fee = r.liquidator - r.final ∧ 0 ≤ r.fee ∧ toU64? r.fee = some r.feeWhole ∧ r.feeFrac = frac r.fee := by
  unfold liquidationAmounts at h
  apply Res.bind_elim h; clear h; intro fees hf h
  apply Res.bind_elim h; clear h; intro fd hfd h
  apply Res.bind_elim h; clear h; intro ld hld h
  apply Res.bind_elim h; clear h; intro v1 hv1 h
  apply Res.bind_elim h; clear h; intro liq hliq h
  apply Res.bind_elim h; clear h; intro v2 hv2 h
  apply Res.bind_elim h; clear h; intro fin hfin h
  apply Res.bind_elim h; clear h; intro fee hfee h
  obtain ⟨hneg, h⟩ := Res.of_ite_error h
  cases (addP_ok hf).1; cases (subP_ok hfd).1; cases (subP_ok hld).1
  revert h
  cases hw : toU64? fee with
  | none => intro h; cases h
  | some w =>
    intro h
    cases Res.pure_ok h
    exact ⟨v1, v2, hv1, hliq, hv2, hfin, (subP_ok hfee).1, Int.not_lt.1 hneg, hw, rfl⟩

theorem compsLoop_cons_ok {r : Req} {em : List Entry} {p : Pos} {rest : List Pos} {i : Nat} {acc c : Comps}
    (h : compsLoop r em (p :: rest) i acc = (c, none)) :
    ∃ av lv pr code acc', weightedValue p r em = .ok (av, lv, pr, code) ∧ acc'.assets = acc.assets + av ∧
      acc'.liabs = acc.liabs + lv ∧ compsLoop r em rest (i + 1) acc' = (c, none) := by
  unfold compsLoop at h
  revert h
  cases weightedValue p r em with
  | error f => intro h; cases h
  | ok x =>
    obtain ⟨av, lv, pr, code⟩ := x
    dsimp only
    generalize hacc : (if code ≠ 0 ∧ acc.errIdx.isNone = true then { acc with errIdx := some i, errCode := code } else acc) = acc0
    have ea : acc0.assets = acc.assets := by rw [← hacc]; split <;> rfl
    have el : acc0.liabs = acc.liabs := by rw [← hacc]; split <;> rfl
    cases ha : add? acc0.assets av with
    | none => intro h; cases h
    | some a =>
      cases hl : add? acc0.liabs lv with
      | none => intro h; cases h
      | some l =>
        intro h
        exact ⟨av, lv, pr, code, _, rfl, by rw [(add?_some ha).1, ea], by rw [(add?_some hl).1, el], h⟩

theorem compsLoop_all_ok {r : Req} {em : List Entry} : ∀ {ps : List Pos} {i : Nat} {acc c : Comps},
    compsLoop r em ps i acc = (c, none) → ∀ p ∈ ps, ∃ v, weightedValue p r em = .ok v
  | [], _, _, _, _, _, hp => by cases hp
  | q :: rest, i, acc, c, h, p, hp => by
    obtain ⟨av, lv, pr, code, acc', hq, _, _, hrest⟩ := compsLoop_cons_ok h
    rcases List.mem_cons.mp hp with rfl | hp
    · exact ⟨_, hq⟩
    · exact compsLoop_all_ok hrest p hp

theorem components_ok {ps : List Pos} {r : Req} {c : Comps} (h : components ps r = .ok c) : componentsP ps r = (c, none) := by
  unfold components at h
  revert h
  cases componentsP ps r with
  | mk c' f =>
    cases f with
    | none => intro h; rw [Res.pure_ok h]
    | some f => intro h; cases h

theorem preLiquidation_ok {ps : List Pos} {ig : Bool} {hl a l : Int} (h : preLiquidation ps ig = .ok (hl, a, l)) :
    ∃ c, components ps .maint = .ok c ∧ a = c.assets ∧ l = c.liabs ∧ hl = c.assets - c.liabs ∧ (ig = false → hl ≤ 0) := by
  unfold preLiquidation at h
  obtain ⟨c, hc, h⟩ := Res.bind_ok h
  obtain ⟨x, hx, h⟩ := Res.bind_ok h
  obtain ⟨hn, h⟩ := Res.of_ite_error h
  cases Res.pure_ok h
  refine ⟨c, hc, rfl, rfl, (sub?_some (math_ok hx)).1, ?_⟩
  intro hig
  rw [hig] at hn
  exact Int.not_lt.1 fun hp => hn ⟨hp, rfl⟩

theorem checkBankrupt_ok {ps : List Pos} {a l : Int} (h : checkBankrupt ps = .ok (a, l)) :
    ∃ c, components ps .equity = .ok c ∧ c.assets = a ∧ c.liabs = l ∧ a < l ∧ a < BANKRUPT_THRESHOLD ∧ ZERO_AMOUNT_THRESHOLD < l := by
  unfold checkBankrupt at h
  obtain ⟨c, hc, h⟩ := Res.bind_ok h
  obtain ⟨h1, h⟩ := Res.of_ite_not_error h
  obtain ⟨h2, h⟩ := Res.of_ite_not_error h
  cases Res.pure_ok h
  exact ⟨c, hc, rfl, rfl, h1, h2.1, h2.2⟩

theorem checkInitHealth_ok {ps : List Pos} (h : checkInitHealth ps = .ok ()) :
    ∃ c, components ps .initial = .ok c ∧ c.liabs ≤ c.assets ∧ riskTiers ps = .ok () := by
  unfold checkInitHealth at h
  obtain ⟨c, hc, h⟩ := Res.bind_ok h
  obtain ⟨h1, h⟩ := Res.of_ite_else_error h
  exact ⟨c, hc, h1, h⟩

theorem preLiquidationFor_ok {ps : List Pos} {lp : Option Pos} {pre : Int} (h : preLiquidationFor ps lp = .ok pre) :
    ∃ p, lp = some p ∧ liabEmpty p = false ∧ assetEmpty p = true ∧ pre ≤ 0 ∧
      ∃ c, components ps .maint = .ok c ∧ pre = c.assets - c.liabs := by
  unfold preLiquidationFor at h
  cases lp with
  | none => cases h
  | some p =>
    obtain ⟨hl, h⟩ := Res.of_ite_error h
    obtain ⟨ha, h⟩ := Res.of_ite_error h
    obtain ⟨x, hx, h⟩ := Res.bind_ok h
    obtain ⟨hh, a, l⟩ := x
    cases Res.pure_ok h
    obtain ⟨c, hc, _, _, e, hle⟩ := preLiquidation_ok hx
    exact ⟨p, rfl, Bool.eq_false_iff.2 hl, by simpa using ha, hle rfl, c, hc, e⟩

theorem postLiquidation_ok {ps : List Pos} {lp : Pos} {pre post : Int} (h : postLiquidation ps lp pre = .ok post) :
    liabEmpty lp = false ∧ assetEmpty lp = true ∧ post ≤ 0 ∧ pre < post ∧
      ∃ c, components ps .maint = .ok c ∧ post = c.assets - c.liabs := by
  unfold postLiquidation at h
  obtain ⟨hl, h⟩ := Res.of_ite_error h
  obtain ⟨ha, h⟩ := Res.of_ite_error h
  obtain ⟨c, hc, h⟩ := Res.bind_ok h
  obtain ⟨x, hx, h⟩ := Res.bind_ok h
  obtain ⟨h0, h⟩ := Res.of_ite_not_error h
  obtain ⟨h1, h⟩ := Res.of_ite_error h
  cases Res.pure_ok h
  exact ⟨Bool.eq_false_iff.2 hl, by simpa using ha, h0, Int.not_le.1 h1, c, hc, (sub?_some (math_ok hx)).1⟩

/-- `ig = false` at the start of a liquidation, `true` at the start of a forced deleverage -/
theorem startReceivership_ok {ps : List Pos} {ig : Bool} {c : PreCache} (h : startReceivership ps ig = .ok c) :
    ∃ cm ce, components ps .maint = .ok cm ∧ components ps .equity = .ok ce ∧ (ig = false → cm.assets - cm.liabs ≤ 0) ∧
      c = { aMaint := cm.assets, lMaint := cm.liabs, aEq := ce.assets, lEq := ce.liabs } := by
  unfold startReceivership at h
  obtain ⟨⟨hh, a, l⟩, hpl, h⟩ := Res.bind_ok h
  obtain ⟨cm, hcm, rfl, rfl, rfl, hle⟩ := preLiquidation_ok hpl
  obtain ⟨ce, hce, h⟩ := Res.bind_ok h
  exact ⟨cm, ce, hcm, hce, hle, (Res.pure_ok h).symm⟩

end Mfi.Risk
