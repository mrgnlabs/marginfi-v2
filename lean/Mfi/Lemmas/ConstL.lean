/-
  The program's constant tables against what they stand for (the tables are regenerated from the real crates on
  every run by `mfi-harness dump-consts`; the models do not read them).
-/
import Mfi.Fx
import Mfi.Gen.Consts

namespace Mfi.ConstL
open Mfi Mfi.Fx

/-- The scaling table is the powers of ten: row i of `EXP_10_I80F48` (type-crate/src/constants.rs) is exactly
    10^i as an I80F48, for all 24 rows — every valuation, liquidation amount, emission and venue conversion divides or
    multiplies by a row of it chosen by a bank's decimals. -/
theorem exp10_table_exact : Mfi.Gen.EXP_10_I80F48 = POW10FX := by decide

theorem exp10_table_len : Mfi.Gen.MAX_EXP_10_I80F48 = 24 ∧ POW10FX.length = 24 := by decide

/-- the Drift-side integer table `EXP_10` is the powers of ten as well -/
theorem exp10_int_table_exact : Mfi.Gen.EXP_10 = (List.range Mfi.Gen.EXP_10.length).map fun i => (10 : Int) ^ i := by decide

end Mfi.ConstL
