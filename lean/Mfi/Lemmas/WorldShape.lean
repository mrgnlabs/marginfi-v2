/- The shape of a slot array (`Shape`: 16 slots, at most one active per bank, sorted) under every instruction. An array changes
   by `find_or_create`, a write-back in place and the sort only, and each is read through the bank keys of its active slots (`keys`). -/
import Mfi.Lemmas.WorldLedger
namespace Mfi.World
open Mfi Mfi.Gen Mfi.Account Mfi.Bank

/-- the bank keys of the active slots, in slot order -/
def keys (l : List Slot) : List Nat := (l.filter (·.active)).map (·.bank)

/-- 16 slots, at most one active slot per bank, bank keys non-increasing along the array -/
structure Shape (l : List Slot) : Prop where
  len : l.length = 16
  nodup : (keys l).Nodup
  sorted : l.Pairwise (fun x y => x.bank ≥ y.bank)

theorem keys_append (l₁ l₂ : List Slot) : keys (l₁ ++ l₂) = keys l₁ ++ keys l₂ := by
  unfold keys; rw [List.filter_append, List.map_append]

/-- writing slot `i` exchanges, in place, what that slot contributes to the key list -/
theorem keys_set {l : List Slot} {i : Nat} {s : Slot} (h : l[i]? = some s) (s' : Slot) :
    ∃ A B, keys l = A ++ (keys [s] ++ B) ∧ keys (l.set i s') = A ++ (keys [s'] ++ B) := by
  obtain ⟨hi, rfl⟩ := List.getElem?_eq_some_iff.mp h
  refine ⟨keys (l.take i), keys (l.drop (i + 1)), ?_, ?_⟩
  · rw [← keys_append, ← keys_append, List.singleton_append, List.getElem_cons_drop, List.take_append_drop]
  · rw [← keys_append, ← keys_append, List.singleton_append, List.set_eq_take_append_cons_drop, if_pos hi]

theorem keys_write {key : Nat} {l : List Slot} {i : Nat} {s : Slot} {x' : Balance} (hs : l[i]? = some s ∧ s.active = true ∧ s.bank = key)
    (hx : x'.active = true) : keys (l.set i (ofBal key x')) = keys l := by
  obtain ⟨A, B, e, e'⟩ := keys_set hs.1 (ofBal key x')
  rw [e, e', show keys [ofBal key x'] = keys [s] by simp [keys, ofBal, hx, hs.2.1, hs.2.2]]

theorem keys_set_closed {l : List Slot} {i : Nat} {s s' : Slot} (h : l[i]? = some s) (ha' : s'.active = false) :
    (keys (l.set i s')).Sublist (keys l) := by
  obtain ⟨A, B, e, e'⟩ := keys_set h s'
  rw [e, e', show keys [s'] = [] by simp [keys, ha']]
  exact (List.sublist_append_right _ _).append_left A

theorem keys_set_opened {l : List Slot} {i : Nat} {s s' : Slot} (h : l[i]? = some s) (ha : s.active = false) (ha' : s'.active = true) :
    (keys (l.set i s')).Perm (s'.bank :: keys l) := by
  obtain ⟨A, B, e, e'⟩ := keys_set h s'
  rw [e, e', show keys [s] = [] by simp [keys, ha], show keys [s'] = [s'.bank] by simp [keys, ha']]
  exact List.perm_middle

theorem keys_sort (l : List Slot) : (keys (sortBalances l)).Perm (keys l) :=
  ((sort_perm l).filter _).map _

theorem pairwise_set_same {l : List Slot} {i : Nat} {s s' : Slot} (hp : l.Pairwise (fun x y => x.bank ≥ y.bank))
    (hs : l[i]? = some s) (hb : s'.bank = s.bank) : (l.set i s').Pairwise (fun x y => x.bank ≥ y.bank) := by
  have h1 : (l.map (·.bank)).Pairwise (fun a b => a ≥ b) := List.pairwise_map.2 hp
  rw [← ListL.map_set_of_eq (·.bank) s' hs hb] at h1
  exact List.pairwise_map.1 h1

theorem sort_shape {l : List Slot} (hl : l.length = 16) (hn : (keys l).Nodup) : Shape (sortBalances l) :=
  ⟨by simp [sortBalances, List.length_mergeSort, hl], (keys_sort _).nodup_iff.2 hn, sort_pairwise _⟩

/-- the write-back of a rewritten or closed slot: set, then sort -/
theorem sortset_shape {key : Nat} {l : List Slot} {i : Nat} {s : Slot} {x' : Balance} (hl : l.length = 16) (hn : (keys l).Nodup)
    (hs : l[i]? = some s ∧ s.active = true ∧ s.bank = key) : Shape (sortBalances (l.set i (ofBal key x'))) := by
  refine sort_shape (by rw [List.length_set, hl]) ?_
  by_cases hx : x'.active = true
  · rw [keys_write hs hx]; exact hn
  · exact hn.sublist (keys_set_closed hs.1 (by simp [ofBal, hx]))

theorem findOrCreate_keys {l l' : List Slot} {bank : Nat} {tag now : Int} {i : Nat}
    (h : findOrCreate l bank tag now = .ok (l', i)) (hn : (keys l).Nodup) : l'.length = l.length ∧ (keys l').Nodup := by
  rcases findOrCreate_ok h with ⟨_, rfl⟩ | ⟨hnone, ⟨e, hie, hea⟩, rfl⟩
  · exact ⟨rfl, hn⟩
  · refine ⟨List.length_set .., (keys_set_opened hie hea rfl).nodup_iff.2 (List.nodup_cons.2 ⟨?_, hn⟩)⟩
    intro hmem
    simp only [keys, List.mem_map, List.mem_filter] at hmem
    obtain ⟨x, ⟨hx, hxa⟩, hxb⟩ := hmem
    exact findIdx_none hnone x hx hxa hxb

theorem shape_of_move {c : Ctx} {l : List Slot} {tag now : Int} {i : Nat} {s : Slot} {x' : Balance} (hs : Shape c.a.slots)
    (hfc : findOrCreate c.a.slots c.b.key tag now = .ok (l, i)) (hsl : l[i]? = some s) : Shape (writeSlot c l i x') := by
  obtain ⟨hl, hn⟩ := findOrCreate_keys hfc hs.nodup
  exact sortset_shape (by rw [hl, hs.len]) hn ⟨hsl, findOrCreate_slot hfc hsl⟩

theorem shape_of_found {c : Ctx} {i : Nat} {s : Slot} {x' : Balance} (hs : Shape c.a.slots) (hfs : findSlot c = .ok (i, s)) :
    Shape (writeSlot c c.a.slots i x') :=
  sortset_shape hs.len hs.nodup (findSlot_ok hfs)

theorem borrow_shape {c : Ctx} {amt : Int} {o : Out} (h : borrow c amt = .ok o) (hs : Shape c.a.slots) : Shape o.slots := by
  obtain ⟨b, slots, i, s, x', _, _, _, hfc, hsl, _, ho⟩ := (borrow_ok h).core
  rw [ho]; exact shape_of_move hs hfc hsl

theorem deposit_shape {c : Ctx} {amt : Int} {up : Bool} {o : Out} (h : deposit c amt up = .ok o) (hs : Shape c.a.slots) :
    Shape o.slots := by
  obtain ⟨b, a, _, _, hcore⟩ := (deposit_ok h).core
  by_cases h0 : a = 0
  · rw [if_pos h0] at hcore; rw [hcore.1]; exact hs
  · rw [if_neg h0] at hcore
    obtain ⟨slots, i, s, x', hfc, hsl, _, ho⟩ := hcore
    rw [ho]; exact shape_of_move hs hfc hsl

theorem withdraw_shape {c : Ctx} {amt : Int} {all : Bool} {o : Out} (h : withdraw c amt all = .ok o) (hs : Shape c.a.slots) :
    Shape o.slots := by
  obtain ⟨_, _, i, s, x', _, _, _, hfs, _, _, _, ho⟩ := (withdraw_ok h).core
  rw [ho]; exact shape_of_found hs hfs

theorem repay_shape {c : Ctx} {amt : Int} {all : Bool} {o : Out} (h : repay c amt all = .ok o) (hs : Shape c.a.slots) :
    Shape o.slots := by
  obtain ⟨_, i, s, _, x', _, _, hfs, _, _, _, ho⟩ := (repay_ok h).core
  rw [ho]; exact shape_of_found hs hfs

theorem close_shape {c : Ctx} {o : Out} (h : closeBalance c = .ok o) (hs : Shape c.a.slots) : Shape o.slots := by
  obtain ⟨_, i, s, x', _, hfs, _, ho⟩ := (close_ok h).core
  rw [ho]; exact shape_of_found hs hfs

theorem UserIx.shape {op : WOp} {ai bi signer : Nat} {vault : Int} {run : Ctx → Res Out} {dust : Slot → Int × Int}
    (hu : UserIx op ai bi signer vault run dust) {c : Ctx} {o : Out}
    (ho : run c = .ok o) (hs : Shape c.a.slots) : Shape o.slots := by
  cases hu with
  | deposit => exact deposit_shape ho hs
  | withdraw => exact withdraw_shape ho hs
  | borrow => exact borrow_shape ho hs
  | repay => exact repay_shape ho hs
  | close => exact close_shape ho hs

theorem set_shape {key : Nat} {l : List Slot} {i : Nat} {s : Slot} {x' : Balance} (hl : Shape l)
    (hs : l[i]? = some s ∧ s.active = true ∧ s.bank = key) (hx : x'.active = true) : Shape (l.set i (ofBal key x')) := by
  refine ⟨by rw [List.length_set, hl.len], ?_, pairwise_set_same hl.sorted hs.1 (by simp [ofBal, hx, hs.2.2])⟩
  rw [keys_write hs hx]
  exact hl.nodup

theorem bankruptcy_shape {c : Ctx} {available : Int} {o : BkrOut} (h : bankruptcy c available = .ok o) (hs : Shape c.a.slots) :
    Shape o.slots := by
  obtain ⟨b, i, s, st, _, _, hsl, hact, hbank, hst, rfl⟩ := (bankruptcy_ok h).core
  obtain ⟨b1, _, hinc⟩ := settleBankruptcy_moves hst
  exact set_shape hs ⟨hsl, hact, hbank⟩ ((inc_active hinc).trans hact)

theorem liquidate_shape {c : LiqCtx} {amount : Int} {o : LiqOutW} (h : liquidate c amount = .ok o)
    (hq : Shape c.lq.slots) (he : Shape c.le.slots) : Shape o.lqSlots ∧ Shape o.leSlots := by
  obtain ⟨t, k⟩ := liquidate_ok h
  constructor
  · -- liquidator: find_or_create, rewrite, find_or_create, rewrite, sort
    obtain ⟨l1, n1⟩ := findOrCreate_keys k.slot1 hq.nodup
    have n1' : (keys (t.lq1.set t.i1 (ofBal c.lb.key t.x1))).Nodup := by
      rw [keys_write k.get1 ((dec_active k.move1).trans k.get1.2.1)]; exact n1
    obtain ⟨l3, n3⟩ := findOrCreate_keys k.slot3 n1'
    rw [k.lqSlots]
    exact sortset_shape (by rw [l3, List.length_set, l1, hq.len]) n3 k.get3
  · -- liquidatee: sort, two rewrites in place
    rw [k.leSlots]
    exact set_shape (set_shape (sort_shape he.len he.nodup) k.get2 ((dec_active k.move2).trans k.get2.2.1)) k.get4
      ((inc_active k.move4).trans k.get4.2.1)

def WShape (w : WState) : Prop := ∀ a ∈ w.accts, Shape a.slots

theorem commit_shape {w : WState} {ai bi : Nat} {a : AcctV} {b : WBank} {slots : List Slot} {flags : Nat} {books : Bank} {opState : Int}
    {window : Admin.Window} {dA dL : Int}
    (hw : WShape w) (ho : Shape slots) : WShape (w.commit ai bi a b slots flags books opState window dA dL) :=
  ListL.forall_mem_set (P := fun x : AcctV => Shape x.slots) hw ho

theorem zeroed_shape : Shape Transfer.zeroedSlots :=
  ⟨rfl, List.nodup_nil, List.pairwise_replicate.2 (Or.inr (Nat.le_refl _))⟩

theorem step_shape (w : WState) (op : WOp) (hw : WShape w) : WShape (w.step op) := by
  refine step_ind w op hw fun w' h => ?_
  cases h with
  | user hu ha hb ho => exact commit_shape hw (hu.shape ho (hw _ (List.mem_of_getElem? ha)))
  | bankruptcy ha hb ho => exact commit_shape hw (bankruptcy_shape ho (hw _ (List.mem_of_getElem? ha)))
  | liquidate hqe hbl hq he hab hlb ho =>
    obtain ⟨s1, s2⟩ := liquidate_shape ho (hw _ (List.mem_of_getElem? hq)) (hw _ (List.mem_of_getElem? he))
    exact ListL.forall_mem_set (P := fun x : AcctV => Shape x.slots) (ListL.forall_mem_set (P := fun x : AcctV => Shape x.slots) hw s1) s2
  | transfer _ _ ha ho =>
    obtain ⟨e1, e2, _, _⟩ := transferIx_ok ho
    intro x hx
    rcases List.mem_append.mp hx with hx | hx
    · exact ListL.forall_mem_set (P := fun x : AcctV => Shape x.slots) hw (by rw [e1]; exact zeroed_shape) x hx
    · rw [List.mem_singleton.mp hx, e2]; exact hw _ (List.mem_of_getElem? ha)
  | accrue hb ho => exact hw
  | collect hb ho => exact hw
  | tick dt => exact hw

theorem setAcct_shape {w : WState} {ai : Nat} {a a' : AcctV} (hw : WShape w) (ha : w.accts[ai]? = some a) (hs : a'.slots = a.slots) :
    WShape { w with accts := w.accts.set ai a' } :=
  ListL.forall_mem_set hw (hs ▸ hw a (List.mem_of_getElem? ha))

theorem run_shape (ops : List WOp) : ∀ (w : WState), WShape w → WShape (w.run ops) := by
  induction ops with
  | nil => intro w h; exact h
  | cons op rest ih => intro w h; exact ih _ (step_shape w op h)

end Mfi.World
