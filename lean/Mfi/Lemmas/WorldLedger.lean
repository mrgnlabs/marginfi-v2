/-
  The share ledger of the world machine. What an instruction does to one account and one bank is a `LedgerStepG`: the bank's
  totals move by what the account's positions in it move (plus abandoned dust), its positions in other banks stay. Such a step is
  composed from steps that move nothing (`from_same`, `to_same`) and ONE write-back (`write`, `moved`); `WInv.update` carries it
  to the invariant of the whole world, `WInv`.
-/
import Mfi.Lemmas.WorldPos
import Mfi.Lemmas.DeltaL
import Mfi.Lemmas.WorldStep
namespace Mfi.World
open Mfi Mfi.Gen Mfi.Account Mfi.Bank

theorem inc_active {b0 b' : Bank} {x0 x' : Balance} {now delta : Int} {t : IncType}
    (h : increaseBalance b0 x0 now delta t = .ok (b', x')) : x'.active = x0.active :=
  (increase_moved h).active

theorem dec_active {b0 b' : Bank} {x0 x' : Balance} {now delta : Int} {t : DecType}
    (h : decreaseBalance b0 x0 now delta t = .ok (b', x')) : x'.active = x0.active :=
  (decrease_moved h).active

theorem accrue_totals {b b' : Bank} {ir : Interest.IrCalc} {now : Int} (h : accrueInterest b ir now = .ok b') :
    b'.sa = b.sa ∧ b'.sl = b.sl := by
  rw [(accrue_frame h).2]; exact ⟨rfl, rfl⟩

theorem accrue_limits {b b' : Bank} {ir : Interest.IrCalc} {now : Int} (h : accrueInterest b ir now = .ok b') :
    b'.depositLimit = b.depositLimit ∧ b'.borrowLimit = b.borrowLimit := by
  rw [(accrue_frame h).2]; exact ⟨rfl, rfl⟩

/-- The ledger step of a whole instruction: in the bank operated on, the share totals move by exactly what the
    account's positions in that bank move, plus the shares a closure abandons (`dA`, `dL`); the account's positions in every
    OTHER bank are what they were — find_or_create, the write-back and the sort included -/
structure LedgerStepG (key : Nat) (slots0 slots1 : List Slot) (b0 b1 : Bank) (dA dL : Int) : Prop where
  assets : b1.sa - b0.sa = posA key slots1 - posA key slots0 + dA
  liabs : b1.sl - b0.sl = posL key slots1 - posL key slots0 + dL
  others : ∀ k, k ≠ key → posA k slots1 = posA k slots0 ∧ posL k slots1 = posL k slots0

abbrev LedgerStep (c : Ctx) (o : Out) (dA dL : Int) : Prop := LedgerStepG c.b.key c.a.slots o.slots c.b.books o.books dA dL

/-! Every instruction is a chain of steps of three kinds: steps that leave all holdings and both totals alone (accrual,
`find_or_create`, the sort: `from_same`, `to_same`), and ONE write-back of a moved position in place (`write`). -/

theorem LedgerStepG.write {key : Nat} {l : List Slot} {i : Nat} {s : Slot} {x' : Balance} {b b' : Bank} {dA dL : Int}
    (hs : l[i]? = some s) (ha : s.active = true) (hb : s.bank = key) (hx : x'.active = true ∨ (x'.a = 0 ∧ x'.l = 0))
    (hA : b'.sa - b.sa = x'.a - s.a + dA) (hL : b'.sl - b.sl = x'.l - s.l + dL) :
    LedgerStepG key l (l.set i (ofBal key x')) b b' dA dL := by
  have c1 : ctrA key s = s.a ∧ ctrL key s = s.l := by simp [ctrA, ctrL, ha, hb]
  have c2 : ctrA key (ofBal key x') = x'.a ∧ ctrL key (ofBal key x') = x'.l := by
    rcases hx with hx | hx
    · simp [ctrA, ctrL, ofBal, hx]
    · cases hact : x'.active <;> simp [ctrA, ctrL, ofBal, hact, hx.1, hx.2]
  refine ⟨by rw [posA_set _ l i s _ hs, c1.1, c2.1]; omega, by rw [posL_set _ l i s _ hs, c1.2, c2.2]; omega, ?_⟩
  intro k hk
  have h1 : ctrA k s = 0 ∧ ctrL k s = 0 := by
    have : (s.bank == k) = false := by rw [hb]; simpa using Ne.symm hk
    simp [ctrA, ctrL, this]
  have h2 : ctrA k (ofBal key x') = 0 ∧ ctrL k (ofBal key x') = 0 := by
    have : (key == k) = false := by simpa using Ne.symm hk
    cases hact : x'.active <;> simp [ctrA, ctrL, ofBal, hact, this]
  rw [posA_set _ l i s _ hs, posL_set _ l i s _ hs, h1.1, h1.2, h2.1, h2.2]
  omega

theorem LedgerStepG.from_same {key : Nat} {l0 l0' l1 : List Slot} {b0 b0' b1 : Bank} {dA dL : Int}
    (h : LedgerStepG key l0 l1 b0 b1 dA dL) (hl : ∀ k, posA k l0 = posA k l0' ∧ posL k l0 = posL k l0')
    (hb : b0.sa = b0'.sa ∧ b0.sl = b0'.sl) : LedgerStepG key l0' l1 b0' b1 dA dL :=
  ⟨by rw [← (hl key).1, ← hb.1]; exact h.assets, by rw [← (hl key).2, ← hb.2]; exact h.liabs,
   fun k hk => by rw [← (hl k).1, ← (hl k).2]; exact h.others k hk⟩

theorem LedgerStepG.to_same {key : Nat} {l0 l1 l1' : List Slot} {b0 b1 b1' : Bank} {dA dL : Int}
    (h : LedgerStepG key l0 l1 b0 b1 dA dL) (hl : ∀ k, posA k l1' = posA k l1 ∧ posL k l1' = posL k l1)
    (hb : b1'.sa = b1.sa ∧ b1'.sl = b1.sl) : LedgerStepG key l0 l1' b0 b1' dA dL :=
  ⟨by rw [(hl key).1, hb.1]; exact h.assets, by rw [(hl key).2, hb.2]; exact h.liabs,
   fun k hk => by rw [(hl k).1, (hl k).2]; exact h.others k hk⟩

theorem LedgerStepG.moved {key : Nat} {l : List Slot} {i : Nat} {s : Slot} {b b' : Bank} {x' : Balance} {da dl : Int}
    (hs : l[i]? = some s ∧ s.active = true ∧ s.bank = key) (m : Moved b (toBal s) da dl b' x') :
    LedgerStepG key l (l.set i (ofBal key x')) b b' 0 0 :=
  .write hs.1 hs.2.1 hs.2.2 (Or.inl (m.active.trans hs.2.1)) (by rw [Int.add_zero]; exact m.delta_eq.1)
    (by rw [Int.add_zero]; exact m.delta_eq.2)

/-- the common shape of all five: accrue, find (or create) the slot, move the position and write it back (`hw`), sort -/
theorem ledger_of_move {c : Ctx} {o : Out} {b b' : Bank} {l : List Slot} {i : Nat} {x' : Balance} {dA dL : Int}
    (hacc : accrueInterest c.b.books c.b.ir c.now = .ok b) (hl : ∀ k, posA k l = posA k c.a.slots ∧ posL k l = posL k c.a.slots)
    (hw : LedgerStepG c.b.key l (l.set i (ofBal c.b.key x')) b b' dA dL)
    (hsl : o.slots = writeSlot c l i x') (hbk : o.books.sa = b'.sa ∧ o.books.sl = b'.sl) : LedgerStep c o dA dL := by
  rw [LedgerStep, hsl]
  exact (hw.from_same hl (accrue_totals hacc)).to_same (pos_sort _) hbk

theorem borrow_ledger {c : Ctx} {amt : Int} {o : Out} (h : borrow c amt = .ok o) : LedgerStep c o 0 0 := by
  obtain ⟨b, slots, i, s, x', hb, _, _, hfc, hs, hcore, hsl⟩ := (borrow_ok h).core
  obtain ⟨_, b2, _, _, _, _, hd, hbk, _⟩ := borrowCore_spec hcore
  exact ledger_of_move hb (findOrCreate_pos hfc).1 (.moved ⟨hs, findOrCreate_slot hfc hs⟩ (decrease_moved hd)) hsl
    (by rw [hbk]; exact ⟨rfl, rfl⟩)

theorem deposit_ledger {c : Ctx} {amt : Int} {up : Bool} {o : Out} (h : deposit c amt up = .ok o) : LedgerStep c o 0 0 := by
  obtain ⟨b, a, hb, _, hcore⟩ := (deposit_ok h).core
  by_cases h0 : a = 0
  · rw [if_pos h0] at hcore
    obtain ⟨hs, hbk, _⟩ := hcore
    obtain ⟨t1, t2⟩ := accrue_totals hb
    exact ⟨by rw [hs, hbk]; omega, by rw [hs, hbk]; omega, fun k _ => by rw [hs]; exact ⟨rfl, rfl⟩⟩
  · rw [if_neg h0] at hcore
    obtain ⟨slots, i, s, x', hfc, hs, hd, hsl⟩ := hcore
    obtain ⟨x2, hr, rfl, _⟩ := depositCore_spec hd
    exact ledger_of_move hb (findOrCreate_pos hfc).1 (.moved ⟨hs, findOrCreate_slot hfc hs⟩ (increase_moved hr)) hsl ⟨rfl, rfl⟩

theorem withdraw_ledger {c : Ctx} {amt : Int} {all : Bool} {o : Out} (h : withdraw c amt all = .ok o) :
    LedgerStep c o 0 (if all then (slotOf c.a c.b.key).l else 0) := by
  obtain ⟨_, b, i, s, x', _, _, hb, hfs, hcore, _, _, hsl⟩ := (withdraw_ok h).core
  obtain ⟨hs, hact, hbank⟩ := findSlot_ok hfs
  rw [slotOf_found hfs]
  rcases withdrawCore_spec hcore with ⟨rfl, hw⟩ | ⟨rfl, _, hd⟩
  · obtain ⟨e1, e2, e3, e4, _⟩ := DeltaL.withdraw_all_delta hw
    exact ledger_of_move hb (fun _ => ⟨rfl, rfl⟩)
      (.write hs hact hbank (Or.inr ⟨e3, e4⟩) (by rw [e1, e3]; simp [toBal]) (by rw [e2, e4]; simp)) hsl ⟨rfl, rfl⟩
  · exact ledger_of_move hb (fun _ => ⟨rfl, rfl⟩) (.moved ⟨hs, hact, hbank⟩ (decrease_moved hd)) hsl ⟨rfl, rfl⟩

theorem repay_ledger {c : Ctx} {amt : Int} {all : Bool} {o : Out} (h : repay c amt all = .ok o) :
    LedgerStep c o (if all then (slotOf c.a c.b.key).a else 0) 0 := by
  obtain ⟨b, i, s, b', x', _, hb, hfs, hcore, _, hbooks, hsl⟩ := (repay_ok h).core
  obtain ⟨hs, hact, hbank⟩ := findSlot_ok hfs
  rw [slotOf_found hfs]
  have hbk : o.books.sa = b'.sa ∧ o.books.sl = b'.sl := by rw [hbooks]; exact ⟨rfl, rfl⟩
  rcases repayCore_spec hcore with ⟨rfl, hr⟩ | ⟨rfl, _, hd⟩
  · obtain ⟨e1, e2, e3, e4, _⟩ := DeltaL.repay_all_delta hr
    exact ledger_of_move hb (fun _ => ⟨rfl, rfl⟩)
      (.write hs hact hbank (Or.inr ⟨e3, e4⟩) (by rw [e2, e3]; simp) (by rw [e1, e4]; simp [toBal])) hsl hbk
  · exact ledger_of_move hb (fun _ => ⟨rfl, rfl⟩) (.moved ⟨hs, hact, hbank⟩ (increase_moved hd)) hsl hbk

theorem close_ledger {c : Ctx} {o : Out} (h : closeBalance c = .ok o) :
    LedgerStep c o (slotOf c.a c.b.key).a (slotOf c.a c.b.key).l := by
  obtain ⟨b, i, s, x', hb, hfs, hcore, hsl⟩ := (close_ok h).core
  obtain ⟨hs, hact, hbank⟩ := findSlot_ok hfs
  rw [slotOf_found hfs]
  obtain ⟨e1, e2, e3, e4, _⟩ := DeltaL.close_balance_delta hcore
  exact ledger_of_move hb (fun _ => ⟨rfl, rfl⟩)
    (.write hs hact hbank (Or.inr ⟨e3, e4⟩) (by rw [e1, e3]; simp) (by rw [e2, e4]; simp)) hsl ⟨rfl, rfl⟩

theorem UserIx.ledger {op : WOp} {ai bi signer : Nat} {vault : Int} {run : Ctx → Res Out} {dust : Slot → Int × Int}
    (hu : UserIx op ai bi signer vault run dust) {c : Ctx} {o : Out}
    (ho : run c = .ok o) : LedgerStep c o (dust (slotOf c.a c.b.key)).1 (dust (slotOf c.a c.b.key)).2 := by
  cases hu with
  | deposit => exact deposit_ledger ho
  | withdraw => exact withdraw_ledger ho
  | borrow => exact borrow_ledger ho
  | repay => exact repay_ledger ho
  | close => exact close_ledger ho

theorem sum_map_set {α : Type} (f : α → Int) : ∀ (l : List α) (i : Nat) (a a' : α), l[i]? = some a →
    ((l.set i a').map f).sum = (l.map f).sum - f a + f a' := ListL.sum_map_set f

/-- the world-level ledger: distinct banks carry distinct keys, and for every bank the share totals are the sum over ALL
    accounts of the shares their slot arrays hold in that bank, plus the abandoned dust recorded for it -/
structure WInv (w : WState) : Prop where
  keys : ∀ (i j : Nat) (bi bj : WBank), w.banks[i]? = some bi → w.banks[j]? = some bj → i ≠ j → bi.v.key ≠ bj.v.key
  ledgerA : ∀ (j : Nat) (b : WBank), w.banks[j]? = some b →
    b.v.books.sa = (w.accts.map fun a => posA b.v.key a.slots).sum + w.dustA b.v.key
  ledgerL : ∀ (j : Nat) (b : WBank), w.banks[j]? = some b →
    b.v.books.sl = (w.accts.map fun a => posL b.v.key a.slots).sum + w.dustL b.v.key

/-- what the accounts and the dust counter of the world hold in bank `k` -/
abbrev heldA (w : WState) (k : Nat) : Int := (w.accts.map fun a => posA k a.slots).sum + w.dustA k
abbrev heldL (w : WState) (k : Nat) : Int := (w.accts.map fun a => posL k a.slots).sum + w.dustL k

theorem WInv.update {w w' : WState} (hi : WInv w)
    (h : ∀ (j : Nat) (x' : WBank), w'.banks[j]? = some x' → ∃ x, w.banks[j]? = some x ∧ x'.v.key = x.v.key ∧
      x'.v.books.sa - x.v.books.sa = heldA w' x.v.key - heldA w x.v.key ∧
      x'.v.books.sl - x.v.books.sl = heldL w' x.v.key - heldL w x.v.key) : WInv w' := by
  refine ⟨?_, ?_, ?_⟩
  · intro i j bi bj hbi hbj hij
    obtain ⟨xi, hxi, ei, _⟩ := h i bi hbi
    obtain ⟨xj, hxj, ej, _⟩ := h j bj hbj
    rw [ei, ej]; exact hi.keys i j xi xj hxi hxj hij
  · intro j x' hx'
    obtain ⟨x, hx, ek, ea, _⟩ := h j x' hx'
    have := hi.ledgerA j x hx
    rw [ek]; simp only [heldA] at ea; omega
  · intro j x' hx'
    obtain ⟨x, hx, ek, _, el⟩ := h j x' hx'
    have := hi.ledgerL j x hx
    rw [ek]; simp only [heldL] at el; omega

theorem commit_inv {w : WState} {ai bi : Nat} {a : AcctV} {b : WBank} {slots : List Slot} {flags : Nat} {books : Bank} {opState : Int}
    {window : Admin.Window} {dA dL : Int}
    (hi : WInv w) (ha : w.accts[ai]? = some a) (hb : w.banks[bi]? = some b)
    (hs : LedgerStepG b.v.key a.slots slots b.v.books books dA dL) : WInv (w.commit ai bi a b slots flags books opState window dA dL) := by
  refine hi.update fun j x' hx' => ?_
  have sA := fun k => ListL.sum_map_set (fun x : AcctV => posA k x.slots) w.accts ai a { a with slots, flags } ha
  have sL := fun k => ListL.sum_map_set (fun x : AcctV => posL k x.slots) w.accts ai a { a with slots, flags } ha
  rcases ListL.getElem?_set_cases hb hx' with ⟨rfl, rfl⟩ | ⟨hj, hx'⟩
  · refine ⟨b, hb, rfl, ?_, ?_⟩
    · simp only [heldA, WState.commit, sA, bump, if_true]; have := hs.assets; omega
    · simp only [heldL, WState.commit, sL, bump, if_true]; have := hs.liabs; omega
  · have hne : x'.v.key ≠ b.v.key := hi.keys j bi x' b hx' hb (Ne.symm hj)
    have := hs.others _ hne
    refine ⟨x', hx', rfl, ?_, ?_⟩
    · simp only [heldA, WState.commit, sA, bump, if_neg hne]; omega
    · simp only [heldL, WState.commit, sL, bump, if_neg hne]; omega

theorem findIdx_slot {l : List Slot} {key i : Nat} (h : findIdx l key = some i) :
    ∃ s, l[i]? = some s ∧ s.active = true ∧ s.bank = key :=
  findIdx_some h

theorem bankruptcy_core {c : Ctx} {available : Int} {o : BkrOut} (h : bankruptcy c available = .ok o) :
    ∃ b i x st, accrueInterest c.b.books c.b.ir c.now = .ok b ∧ findIdx c.a.slots c.b.key = some i ∧
      balAt c.a.slots i = .ok x ∧ settleBankruptcy b x available c.now = .ok st ∧
      o.books = st.bank ∧ o.slots = c.a.slots.set i (ofBal c.b.key st.bal) := by
  obtain ⟨b, i, s, st, hb, hi, hs, _, _, hst, rfl⟩ := (bankruptcy_ok h).core
  exact ⟨b, i, toBal s, st, hb, hi, by rw [balAt, hs], hst, rfl, rfl⟩

/-- the loss socialisation touches the deposit share value only: on the share totals a settlement is the repayment that follows it -/
theorem bankruptcy_ledger {c : Ctx} {available : Int} {o : BkrOut} (h : bankruptcy c available = .ok o) :
    LedgerStepG c.b.key c.a.slots o.slots c.b.books o.books 0 0 := by
  obtain ⟨b, i, s, st, hb, _, hs, hact, hbank, hst, rfl⟩ := (bankruptcy_ok h).core
  obtain ⟨b1, hsoc, hinc⟩ := settleBankruptcy_moves hst
  have u : b1.sa = b.sa ∧ b1.sl = b.sl := by rw [socializeLoss_frame hsoc]; exact ⟨rfl, rfl⟩
  exact (LedgerStepG.moved ⟨hs, hact, hbank⟩ (increase_moved hinc)).from_same (fun _ => ⟨rfl, rfl⟩)
    ⟨u.1.trans (accrue_totals hb).1, u.2.trans (accrue_totals hb).2⟩

theorem liquidate_core {c : LiqCtx} {amount : Int} {o : LiqOutW} (h : liquidate c amount = .ok o) :
    c.ab.key ≠ c.lb.key ∧
    ∃ (a l : Bank) (aLq aFin : Int) (lq1 : List Slot) (i1 : Nat) (s1 : Slot) (r1 : Bank × Balance) (i2 : Nat) (s2 : Slot) (r2 : Bank × Balance)
      (lq3 : List Slot) (i3 : Nat) (s3 : Slot) (r3 : Bank × Balance) (i4 : Nat) (s4 : Slot) (r4 : Bank × Balance) (f : Int),
      accrueInterest c.ab.books c.ab.ir c.now = .ok a ∧ accrueInterest c.lb.books c.lb.ir c.now = .ok l ∧
      findOrCreate c.lq.slots c.lb.key l.assetTag c.now = .ok (lq1, i1) ∧ lq1[i1]? = some s1 ∧
      decreaseBalance l (toBal s1) c.now aLq .bypassBorrowLimit = .ok r1 ∧
      findIdx (sortBalances c.le.slots) c.ab.key = some i2 ∧ (sortBalances c.le.slots)[i2]? = some s2 ∧
      decreaseBalance a (toBal s2) c.now (Fx.ofInt amount) .bypassBorrowLimit = .ok r2 ∧
      findOrCreate (lq1.set i1 (ofBal c.lb.key r1.2)) c.ab.key r2.1.assetTag c.now = .ok (lq3, i3) ∧ lq3[i3]? = some s3 ∧
      increaseBalance r2.1 (toBal s3) c.now (Fx.ofInt amount) .bypassDepositLimit = .ok r3 ∧
      findIdx ((sortBalances c.le.slots).set i2 (ofBal c.ab.key r2.2)) c.lb.key = some i4 ∧
      ((sortBalances c.le.slots).set i2 (ofBal c.ab.key r2.2))[i4]? = some s4 ∧
      increaseBalance r1.1 (toBal s4) c.now aFin .repayOnly = .ok r4 ∧
      o.lqSlots = sortBalances (lq3.set i3 (ofBal c.ab.key r3.2)) ∧
      o.leSlots = ((sortBalances c.le.slots).set i2 (ofBal c.ab.key r2.2)).set i4 (ofBal c.lb.key r4.2) ∧
      o.assetBooks = r3.1 ∧ o.liabBooks = { r4.1 with feeI := f } := by
  obtain ⟨t, k⟩ := liquidate_ok h
  exact ⟨k.banks, t.a, t.l, t.aLq, t.aFin, t.lq1, t.i1, t.s1, (t.l1, t.x1), t.i2, t.s2, (t.a2, t.x2), t.lq3, t.i3, t.s3, (t.a3, t.x3), t.i4, t.s4, (t.l4, t.x4), _,
    k.accA, k.accL, k.slot1, k.get1.1, k.move1, k.slot2, k.get2.1, k.move2, k.slot3, k.get3.1, k.move3, k.slot4, k.get4.1, k.move4,
    k.lqSlots, k.leSlots, k.assetBooks, k.liabBooks⟩

/-- The ledger step of a liquidation: each of the two banks' share totals moves by exactly what the TWO accounts' slot
    arrays gain or lose in that bank; nothing is abandoned; neither account's holdings in any third bank change -/
structure LedgerStep2 (c : LiqCtx) (o : LiqOutW) : Prop where
  ne : c.ab.key ≠ c.lb.key
  aA : o.assetBooks.sa - c.ab.books.sa = (posA c.ab.key o.lqSlots - posA c.ab.key c.lq.slots) + (posA c.ab.key o.leSlots - posA c.ab.key c.le.slots)
  aL : o.assetBooks.sl - c.ab.books.sl = (posL c.ab.key o.lqSlots - posL c.ab.key c.lq.slots) + (posL c.ab.key o.leSlots - posL c.ab.key c.le.slots)
  lA : o.liabBooks.sa - c.lb.books.sa = (posA c.lb.key o.lqSlots - posA c.lb.key c.lq.slots) + (posA c.lb.key o.leSlots - posA c.lb.key c.le.slots)
  lL : o.liabBooks.sl - c.lb.books.sl = (posL c.lb.key o.lqSlots - posL c.lb.key c.lq.slots) + (posL c.lb.key o.leSlots - posL c.lb.key c.le.slots)
  others : ∀ k, k ≠ c.ab.key → k ≠ c.lb.key →
    posA k o.lqSlots = posA k c.lq.slots ∧ posL k o.lqSlots = posL k c.lq.slots ∧
    posA k o.leSlots = posA k c.le.slots ∧ posL k o.leSlots = posL k c.le.slots

/-- two moves in one bank, the books handed on from the first to the second: one on array `p` (which other banks' moves then
    take from `p1` to `p2`), one on array `q1` (which other banks' moves made of `q`) -/
theorem two_moves {k : Nat} {p p1 p2 q q1 q2 : List Slot} {b b1 b2 : Bank}
    (m : LedgerStepG k p p1 b b1 0 0) (hp : posA k p2 = posA k p1 ∧ posL k p2 = posL k p1)
    (hq : posA k q1 = posA k q ∧ posL k q1 = posL k q) (m' : LedgerStepG k q1 q2 b1 b2 0 0) :
    b2.sa - b.sa = (posA k p2 - posA k p) + (posA k q2 - posA k q) ∧
    b2.sl - b.sl = (posL k p2 - posL k p) + (posL k q2 - posL k q) := by
  have := m.assets; have := m.liabs; have := m'.assets; have := m'.liabs
  omega

theorem liquidate_ledger {c : LiqCtx} {amount : Int} {o : LiqOutW} (h : liquidate c amount = .ok o) : LedgerStep2 c o := by
  obtain ⟨t, k⟩ := liquidate_ok h
  -- the liquidator's array: find_or_create, move 1, find_or_create, move 3, sort; the liquidatee's: sort, move 2, move 4
  have m1 := (LedgerStepG.moved k.get1 (decrease_moved k.move1)).from_same (findOrCreate_pos k.slot1).1 (accrue_totals k.accL)
  have m2 := (LedgerStepG.moved k.get2 (decrease_moved k.move2)).from_same (pos_sort c.le.slots) (accrue_totals k.accA)
  have m3 := ((LedgerStepG.moved k.get3 (increase_moved k.move3)).from_same (findOrCreate_pos k.slot3).1 ⟨rfl, rfl⟩).to_same
    (pos_sort _) ⟨rfl, rfl⟩
  have m4 := (LedgerStepG.moved k.get4 (increase_moved k.move4)).to_same (b1' := o.liabBooks) (fun _ => ⟨rfl, rfl⟩)
    (by rw [k.liabBooks]; exact ⟨rfl, rfl⟩)
  rw [← k.lqSlots, ← k.assetBooks] at m3
  rw [← k.leSlots] at m4
  have hne : c.lb.key ≠ c.ab.key := fun e => k.banks e.symm
  -- collateral bank: moves 2 and 3; debt bank: moves 1 and 4
  obtain ⟨aA, aL⟩ := two_moves m2 (m4.others _ k.banks) (m1.others _ k.banks) m3
  obtain ⟨lA, lL⟩ := two_moves m1 (m3.others _ hne) (m2.others _ hne) m4
  exact ⟨k.banks, by rw [Int.add_comm]; exact aA, by rw [Int.add_comm]; exact aL, lA, lL, fun x hxa hxl =>
    ⟨(m3.others x hxa).1.trans (m1.others x hxl).1, (m3.others x hxa).2.trans (m1.others x hxl).2,
     (m4.others x hxl).1.trans (m2.others x hxa).1, (m4.others x hxl).2.trans (m2.others x hxa).2⟩⟩

theorem commit2_inv {w : WState} {qi ei abi lbi : Nat} {lq le : AcctV} {ab lb : WBank} {o : LiqOutW} {signer : Nat}
    (hi : WInv w) (hqe : qi ≠ ei) (hbl : abi ≠ lbi)
    (hq : w.accts[qi]? = some lq) (he : w.accts[ei]? = some le) (hab : w.banks[abi]? = some ab) (hlb : w.banks[lbi]? = some lb)
    (hs : LedgerStep2 (w.liqCtx lq le ab lb signer) o) : WInv (w.commit2 qi ei abi lbi lq le ab lb o) := by
  have he' : (w.accts.set qi { lq with slots := o.lqSlots })[ei]? = some le := (List.getElem?_set_ne hqe).trans he
  have hlb' : (w.banks.set abi { ab with v := { ab.v with books := o.assetBooks } })[lbi]? = some lb :=
    (List.getElem?_set_ne hbl).trans hlb
  have held : ∀ k, heldA (w.commit2 qi ei abi lbi lq le ab lb o) k - heldA w k =
        (posA k o.lqSlots - posA k lq.slots) + (posA k o.leSlots - posA k le.slots) ∧
      heldL (w.commit2 qi ei abi lbi lq le ab lb o) k - heldL w k =
        (posL k o.lqSlots - posL k lq.slots) + (posL k o.leSlots - posL k le.slots) := fun k => by
    simp only [heldA, heldL, WState.commit2, ListL.sum_map_set _ _ ei le _ he', ListL.sum_map_set _ w.accts qi lq _ hq]
    omega
  refine hi.update fun j x' hx' => ?_
  rcases ListL.getElem?_set_cases hlb' hx' with ⟨rfl, rfl⟩ | ⟨h1, hx'⟩
  · exact ⟨lb, hlb, rfl, hs.lA.trans (held _).1.symm, hs.lL.trans (held _).2.symm⟩
  · rcases ListL.getElem?_set_cases hab hx' with ⟨rfl, rfl⟩ | ⟨h2, hx'⟩
    · exact ⟨ab, hab, rfl, hs.aA.trans (held _).1.symm, hs.aL.trans (held _).2.symm⟩
    · obtain ⟨o1, o2, o3, o4⟩ := hs.others x'.v.key (hi.keys j abi x' ab hx' hab (Ne.symm h2)) (hi.keys j lbi x' lb hx' hlb (Ne.symm h1))
      simp only [WState.liqCtx] at o1 o2 o3 o4
      refine ⟨x', hx', rfl, ?_, ?_⟩
      · rw [(held _).1, o1, o3]; omega
      · rw [(held _).2, o2, o4]; omega

theorem commitB_inv {w : WState} {bi : Nat} {b : WBank} {books : Bank} (hi : WInv w) (hb : w.banks[bi]? = some b)
    (hsa : books.sa = b.v.books.sa) (hsl : books.sl = b.v.books.sl) : WInv (w.commitB bi b books) := by
  refine hi.update fun j x' hx' => ?_
  -- the accounts and the dust are as they were: the world's holdings have not moved
  have same : ∀ k, heldA (w.commitB bi b books) k - heldA w k = 0 ∧ heldL (w.commitB bi b books) k - heldL w k = 0 :=
    fun k => ⟨Int.sub_self _, Int.sub_self _⟩
  rcases ListL.getElem?_set_cases hb hx' with ⟨rfl, rfl⟩ | ⟨_, hx'⟩
  · exact ⟨b, hb, rfl, by rw [(same _).1, hsa]; exact Int.sub_self _, by rw [(same _).2, hsl]; exact Int.sub_self _⟩
  · exact ⟨x', hx', rfl, by rw [(same _).1]; exact Int.sub_self _, by rw [(same _).2]; exact Int.sub_self _⟩

theorem accrueIx_ok {c : Ctx} {books : Bank} (h : accrueIx c = .ok books) : accrueInterest c.b.books c.b.ir c.now = .ok books :=
  (accrueIx_spec.1 h).2

theorem collectFeesIx_ok {c : Ctx} {ok : Bool} {o : CollectOut} (h : collectFeesIx c ok = .ok o) :
    ok = true ∧ ∃ r, collectFees c.b.books.feeI c.b.books.feeG c.b.books.feeP c.vaultAmount = .ok r ∧
      o.books = { c.b.books with feeI := r.feeI, feeG := r.feeG, feeP := r.feeP } ∧
      o.toInsurance = r.toInsurance ∧ o.toGroup = r.toGroup ∧ o.toProgram = r.toProgram := by
  obtain ⟨_, _, hok, r, hr, rfl⟩ := collectFeesIx_spec h
  exact ⟨hok, r, hr, rfl, rfl, rfl, rfl⟩

theorem transferIx_ok {g : GroupV} {a o n : AcctV} {signer newKey newAuth : Nat} {ok : Bool}
    (h : transferIx g a signer newKey newAuth ok = .ok (o, n)) :
    o.slots = Transfer.zeroedSlots ∧ n.slots = a.slots ∧ o.key = a.key ∧ n.key = newKey := by
  obtain ⟨_, _, _, _, _, _, _, _, rfl, rfl⟩ := transferIx_closed h
  exact ⟨rfl, rfl, rfl, rfl⟩

theorem pos_zeroed (k : Nat) : posA k Transfer.zeroedSlots = 0 ∧ posL k Transfer.zeroedSlots = 0 := ⟨rfl, rfl⟩

/-- a transfer moves the whole slot array to a new account: no bank sees its holders' total change -/
theorem transfer_inv {w : WState} {ai : Nat} {a o n : AcctV} (hi : WInv w) (ha : w.accts[ai]? = some a)
    (ho : o.slots = Transfer.zeroedSlots) (hn : n.slots = a.slots) : WInv { w with accts := w.accts.set ai o ++ [n] } := by
  refine hi.update fun j x hx => ⟨x, hx, rfl, ?_, ?_⟩
  · simp only [heldA, ListL.sum_map_set_append (fun y : AcctV => posA x.v.key y.slots) w.accts ai a o n ha, ho, hn, (pos_zeroed x.v.key).1]
    omega
  · simp only [heldL, ListL.sum_map_set_append (fun y : AcctV => posL x.v.key y.slots) w.accts ai a o n ha, ho, hn, (pos_zeroed x.v.key).2]
    omega

/-- rewriting one account into one with the same positions (what a bracket instruction of a transaction does) -/
theorem setAcct_inv {w : WState} {ai : Nat} {a a' : AcctV} (hi : WInv w) (ha : w.accts[ai]? = some a) (hs : a'.slots = a.slots) :
    WInv { w with accts := w.accts.set ai a' } := by
  refine ⟨hi.keys, fun j b hb => ?_, fun j b hb => ?_⟩
  · simp only
    rw [ListL.map_set_of_eq (fun x : AcctV => posA b.v.key x.slots) a' ha (by rw [hs])]; exact hi.ledgerA j b hb
  · simp only
    rw [ListL.map_set_of_eq (fun x : AcctV => posL b.v.key x.slots) a' ha (by rw [hs])]; exact hi.ledgerL j b hb

theorem step_inv (w : WState) (op : WOp) (hi : WInv w) : WInv (w.step op) := by
  refine step_ind w op hi fun w' h => ?_
  cases h with
  | user hu ha hb ho => exact commit_inv hi ha hb (hu.ledger ho)
  | bankruptcy ha hb ho => exact commit_inv hi ha hb (bankruptcy_ledger ho)
  | liquidate hqe hbl hq he hab hlb ho => exact commit2_inv hi hqe hbl hq he hab hlb (liquidate_ledger ho)
  | transfer _ _ ha ho => exact transfer_inv hi ha (transferIx_ok ho).1 (transferIx_ok ho).2.1
  | accrue hb ho => exact commitB_inv hi hb (accrue_totals (accrueIx_ok ho)).1 (accrue_totals (accrueIx_ok ho)).2
  | collect hb ho => obtain ⟨_, r, _, hbk, _⟩ := collectFeesIx_ok ho; exact commitB_inv hi hb (by rw [hbk]; rfl) (by rw [hbk]; rfl)
  | tick dt => exact ⟨hi.keys, hi.ledgerA, hi.ledgerL⟩

theorem run_inv (ops : List WOp) : ∀ (w : WState), WInv w → WInv (w.run ops) := by
  induction ops with
  | nil => intro w h; exact h
  | cons op rest ih => intro w h; exact ih _ (step_inv w op h)

end Mfi.World
